import FlodymProofs.Lemmas.Core
/-!
# What numpy's indexing rule does with the index tuples flodym builds (core Lean only)

`DSel` says what a key asks of one dimension; `S : List DSel` is aligned with the dimension list
(`SelsOK D S`: same length, and every selector is meaningful for its dimension).
The theorems unfold the model of numpy's placement rule (`indexPlan`) for the two regimes flodym
produces: only ints and slices (basic indexing), or — whenever a list is present — ints and the
components of one `np.ix_` call; `plan_spec` states both at once.
-/
namespace Flodym
open DimSet

/-- what a key asks of one dimension -/
inductive DSel where
  | keep                              -- not mentioned: `slice(None)`
  | item (p : Nat)                    -- a single item, at position p
  | sub (d' : Dim) (ps : List Nat)    -- a subset `Dimension` d' (or list) whose items sit at positions ps
deriving Inhabited, DecidableEq

def DSel.toIx : DSel → Ix
  | .keep => .all
  | .item p => .int p
  | .sub _ ps => .list ps

def DSel.isSub : DSel → Bool
  | .sub _ _ => true
  | _ => false

/-- the selector is meaningful for dimension `d` -/
def DSel.OK (d : Dim) : DSel → Prop
  | .keep => True
  | .item p => p < d.len
  | .sub d' ps => ps.length = d'.len ∧ ∀ p ∈ ps, p < d.len

/-- dimensions of the result: single selections dropped, subset selections replaced -/
def outDims : DimSet → List DSel → DimSet
  | d :: D, .keep :: S => d :: outDims D S
  | _ :: D, .item _ :: S => outDims D S
  | _ :: D, .sub d' _ :: S => d' :: outDims D S
  | _, _ => []

/-- the source index tuple addressed by the result labels `e` -/
def liftIdx : DimSet → List DSel → Env → List Nat
  | d :: D, .keep :: S, e => e d.letter :: liftIdx D S e
  | _ :: D, .item p :: S, e => p :: liftIdx D S e
  | _ :: D, .sub d' ps :: S, e => ps.getD (e d'.letter) 0 :: liftIdx D S e
  | _, _, _ => []

def SelsOK : DimSet → List DSel → Prop
  | d :: D, s :: S => s.OK d ∧ SelsOK D S
  | [], [] => True
  | _, _ => False

instance (d : Dim) : (s : DSel) → Decidable (s.OK d)
  | .keep => isTrue trivial
  | .item p => inferInstanceAs (Decidable (p < d.len))
  | .sub d' ps => inferInstanceAs (Decidable (ps.length = d'.len ∧ ∀ p ∈ ps, p < d.len))

instance : (D : DimSet) → (S : List DSel) → Decidable (SelsOK D S)
  | [], [] => isTrue trivial
  | d :: D, s :: S =>
    have : Decidable (SelsOK D S) := instDecidableSelsOK D S
    inferInstanceAs (Decidable (s.OK d ∧ SelsOK D S))
  | [], _ :: _ => isFalse (fun h => h)
  | _ :: _, [] => isFalse (fun h => h)

theorem SelsOK.induction {motive : (D : DimSet) → (S : List DSel) → SelsOK D S → Prop}
    (nil : motive [] [] trivial)
    (keep : ∀ (d : Dim) D S (h : SelsOK D S), motive D S h → motive (d :: D) (.keep :: S) ⟨trivial, h⟩)
    (item : ∀ (d : Dim) D S p (hp : p < d.len) (h : SelsOK D S), motive D S h →
      motive (d :: D) (.item p :: S) ⟨hp, h⟩)
    (sub : ∀ (d : Dim) D S (d' : Dim) (ps : List Nat) (hps : ps.length = d'.len ∧ ∀ p ∈ ps, p < d.len)
      (h : SelsOK D S),
      motive D S h → motive (d :: D) (.sub d' ps :: S) ⟨hps, h⟩) :
    ∀ D S (h : SelsOK D S), motive D S h := by
  intro D
  induction D with
  | nil => exact fun
    | [], _ => nil
    | _ :: _, h => h.elim
  | cons d D ih => exact fun
    | [], h => h.elim
    | .keep :: S, h => keep d D S h.2 (ih S h.2)
    | .item p :: S, h => item d D S p h.1 h.2 (ih S h.2)
    | .sub d' ps :: S, h => sub d D S d' ps h.1 h.2 (ih S h.2)

theorem SelsOK.length : ∀ {D : DimSet} {S : List DSel}, SelsOK D S → S.length = D.length := by
  intro D S h
  induction D, S, h using SelsOK.induction <;> simp [*]

/-! ## the selector state before any key entry is read -/

theorem outDims_keep : ∀ (D : DimSet), outDims D (D.map fun _ => DSel.keep) = D
  | [] => rfl
  | d :: D => congrArg (d :: ·) (outDims_keep D)

theorem liftIdx_keep (e : Env) : ∀ (D : DimSet), liftIdx D (D.map fun _ => DSel.keep) e = (letters D).map e
  | [] => rfl
  | d :: D => congrArg (e d.letter :: ·) (liftIdx_keep e D)

theorem toIx_keep (D : DimSet) : (D.map fun _ => DSel.keep).map DSel.toIx = D.map fun _ => Ix.all :=
  List.map_map

theorem SelsOK_keep : ∀ (D : DimSet), SelsOK D (D.map fun _ => DSel.keep)
  | [] => trivial
  | _ :: D => ⟨trivial, SelsOK_keep D⟩

/-! ## regime 1: no subset/list selector — basic indexing -/

theorem bshape_noArr {ixs : List Ix} (h : ixs.any Ix.isArr = false) : bshape ixs = some [] := by
  have h' : ∀ ix ∈ ixs, Ix.isArr ix = false := fun ix hix =>
    Bool.eq_false_iff.mpr (List.any_eq_false.mp h ix hix)
  have h1 : listLens ixs = [] := List.filterMap_eq_nil_iff.mpr fun ix hix => by
    cases ix <;> first | rfl | exact Bool.noConfusion (h' _ hix)
  have h2 : meshInfos ixs = [] := List.filterMap_eq_nil_iff.mpr fun ix hix => by
    cases ix <;> first | rfl | exact Bool.noConfusion (h' _ hix)
  unfold bshape
  rw [h1, h2]

/-- numpy's rule without array indices: ints drop their axis, slices stay in order -/
theorem indexPlan_noArr {shape : List Nat} {ixs : List Ix} (hlen : ixs.length = shape.length)
    (hin : ixInBounds ixs shape = true) (harr : ixs.any Ix.isArr = false) :
    indexPlan shape ixs = some { shape := sliceLens ixs shape, src := srcBasic ixs } := by
  unfold indexPlan
  simp only [hlen, ne_eq, not_true_eq_false, if_false, hin, Bool.not_true, Bool.false_eq_true,
    bshape_noArr harr, harr, Bool.not_false, if_true]

theorem isArr_toIx : Ix.isArr ∘ DSel.toIx = DSel.isSub := by funext s; cases s <;> rfl

theorem toIx_inBounds {D : DimSet} {S : List DSel} (h : SelsOK D S) :
    ixInBounds (S.map DSel.toIx) (DimSet.shape D) = true := by
  induction D, S, h using SelsOK.induction with
  | nil => rfl
  | keep d D S h ih => exact ih
  | item d D S p hp h ih => exact Bool.and_eq_true_iff.mpr ⟨decide_eq_true hp, ih⟩
  | sub d D S d' ps hps h ih =>
    exact Bool.and_eq_true_iff.mpr ⟨List.all_eq_true.mpr fun p hp => decide_eq_true (hps.2 p hp), ih⟩

theorem basic_plan {D : DimSet} {S : List DSel} (h : SelsOK D S) (hn : S.any DSel.isSub = false) :
    sliceLens (S.map DSel.toIx) (DimSet.shape D) = DimSet.shape (outDims D S) ∧
      ∀ e : Env, srcBasic (S.map DSel.toIx) ((letters (outDims D S)).map e) = liftIdx D S e := by
  induction D, S, h using SelsOK.induction with
  | nil => exact ⟨rfl, fun _ => rfl⟩
  | keep d D S h ih => exact ⟨congrArg (d.len :: ·) (ih hn).1, fun e => congrArg (e d.letter :: ·) ((ih hn).2 e)⟩
  | item d D S p hp h ih => exact ⟨(ih hn).1, fun e => congrArg (p :: ·) ((ih hn).2 e)⟩
  | sub => exact Bool.noConfusion hn

/-- basic indexing: the plan numpy follows for ints and slices -/
theorem indexPlan_basic (D : DimSet) (S : List DSel) (h : SelsOK D S)
    (hn : ∀ s ∈ S, s.isSub = false) :
    ∃ p, indexPlan (DimSet.shape D) (S.map DSel.toIx) = some p ∧
      p.shape = DimSet.shape (outDims D S) ∧
      ∀ e, p.src ((letters (outDims D S)).map e) = liftIdx D S e :=
  have hn' : S.any DSel.isSub = false :=
    List.any_eq_false.mpr fun s hs => Bool.eq_false_iff.mp (hn s hs)
  ⟨_, indexPlan_noArr (((List.length_map _).trans h.length).trans (List.length_map _).symm) (toIx_inBounds h)
      (by rw [List.any_map, isArr_toIx, hn']),
    basic_plan h hn'⟩

open SubArray

/-! ## regime 2: at least one subset/list selector — ints and `np.ix_` meshes only -/

theorem takeWhile_notAdv_nil {l : List Ix} (h : ∀ ix ∈ l, ix.isAdv = true) :
    l.takeWhile (fun ix => !ix.isAdv) = [] := by
  cases l with
  | nil => rfl
  | cons a t => rw [List.takeWhile_cons, h a List.mem_cons_self]; rfl

theorem advAdjacent_allAdv {l : List Ix} (h : ∀ ix ∈ l, ix.isAdv = true) : advAdjacent l = true := by
  unfold advAdjacent
  rw [List.all_eq_true]
  intro b hb
  have h2 : b ∈ (l.map Ix.isAdv).dropWhile (!·) :=
    List.mem_reverse.mp ((List.dropWhile_sublist _).subset hb)
  obtain ⟨ix, hix, rfl⟩ := List.mem_map.mp ((List.dropWhile_sublist _).subset h2)
  exact h ix hix

theorem sliceLens_allAdv {l : List Ix} {sh : List Nat} (h : ∀ ix ∈ l, ix.isAdv = true) :
    sliceLens l sh = [] :=
  List.filterMap_eq_nil_iff.mpr fun (ix, n) hm => by
    have := h ix (List.of_mem_zip (List.zip_eq_zipWith ▸ hm)).1
    cases ix <;> first | rfl | exact Bool.noConfusion this

/-- numpy's rule when *every* index is advanced (ints and array indices, at least one array):
the broadcast axes are the whole result -/
theorem indexPlan_allAdv (shape : List Nat) (ixs : List Ix) (B : List Nat)
    (hlen : ixs.length = shape.length) (hin : ixInBounds ixs shape = true)
    (hB : bshape ixs = some B) (harr : ixs.any Ix.isArr = true)
    (hadv : ixs.all Ix.isAdv = true) :
    indexPlan shape ixs = some { shape := B, src := fun r => srcAdv (r.take B.length) ixs (r.drop B.length) } := by
  replace hadv := List.all_eq_true.mp hadv
  unfold indexPlan
  -- no slice before the advanced block (`takeWhile_notAdv_nil`) nor anywhere (`sliceLens_allAdv`): the result shape is
  -- `[] ++ B ++ []`, which the last six lemmas tidy
  simp only [hlen, ne_eq, not_true_eq_false, if_false, hin, Bool.not_true,
    Bool.false_eq_true, hB, harr, takeWhile_notAdv_nil hadv,
    advAdjacent_allAdv hadv, sliceLens_allAdv hadv, if_true, List.length_nil,
    List.take_zero, List.drop_zero, List.nil_append, List.append_nil, Nat.zero_add]

/-- the broadcast shape of the components of one `np.ix_` call, in order -/
theorem bshape_mesh {ixs : List Ix} {B : List Nat} (hl : listLens ixs = [])
    (hm : meshInfos ixs = (B.zipIdx 0).map fun p => (p.1, p.2, B.length)) :
    bshape ixs = some B := by
  unfold bshape
  rw [hl, hm]
  cases B with
  | nil => rfl
  | cons b B =>
    simp only [List.zipIdx_cons, List.map_cons]
    -- first the value: the lengths of the components are `B`; then `bshape`'s test: every component names the call
    -- size `B.length`, and they are numbered `0, 1, …`
    rw [if_pos]
    · simp only [List.map_map, Function.comp_def, List.zipIdx_map_fst]
    · simp only [List.map_map, Function.comp_def, List.all_cons, List.all_map, beq_self_eq_true,
        List.all_eq_true, Bool.and_true, Bool.true_and, List.zipIdx_map_snd, List.range_eq_range',
        List.range'_succ, List.length_cons, implies_true]

/-- the index tuple after `_convert_lists_to_meshgrid`; `k` counts the mesh components so far -/
def meshIxs (n : Nat) : DimSet → List DSel → Nat → List Ix
  | d :: D, .keep :: S, k => .mesh (List.range d.len) k n :: meshIxs n D S (k + 1)
  | _ :: D, .item p :: S, k => .int p :: meshIxs n D S k
  | _ :: D, .sub _ ps :: S, k => .mesh ps k n :: meshIxs n D S (k + 1)
  | _, _, _ => []

theorem isListIx_toIx : isListIx ∘ DSel.toIx = DSel.isSub := by funext s; cases s <;> rfl

theorem drop_eq_cons {b : List Nat} {k x : Nat} {xs : List Nat} (h : b.drop k = x :: xs) :
    b.getD k 0 = x ∧ b.drop (k + 1) = xs :=
  ⟨by rw [List.getD_eq_getElem?_getD, ← List.head?_drop, h]; rfl, by rw [← List.tail_drop, h]; rfl⟩

section
variable (n : Nat) {D : DimSet} {S : List DSel} (h : SelsOK D S)
include h

theorem meshGo_fullLists (k : Nat) :
    meshGo n (fullLists D (S.map DSel.toIx)) k = meshIxs n D S k := by
  induction D, S, h using SelsOK.induction generalizing k with
  | nil => rfl
  | keep _ _ _ _ ih => exact congrArg (_ :: ·) (ih (k + 1))
  | item _ _ _ _ _ _ ih => exact congrArg (_ :: ·) (ih k)
  | sub _ _ _ _ _ _ _ ih => exact congrArg (_ :: ·) (ih (k + 1))

theorem count_fullLists :
    ((fullLists D (S.map DSel.toIx)).filter isListIx).length = (outDims D S).length := by
  induction D, S, h using SelsOK.induction with
  | nil => rfl
  | keep _ _ _ _ ih => exact congrArg (· + 1) ih
  | item _ _ _ _ _ _ ih => exact ih
  | sub _ _ _ _ _ _ _ ih => exact congrArg (· + 1) ih

/-- what `_convert_lists_to_meshgrid` produces when a list is present -/
theorem convertMesh_eq (hs : S.any DSel.isSub = true) :
    convertMesh D (S.map DSel.toIx) = meshIxs (outDims D S).length D S 0 := by
  unfold convertMesh
  rw [List.any_map, isListIx_toIx, hs, if_pos rfl, count_fullLists h, meshGo_fullLists _ h]

theorem meshIxs_fits (k : Nat) :
    (meshIxs n D S k).length = D.length ∧ ixInBounds (meshIxs n D S k) (DimSet.shape D) = true ∧
      listLens (meshIxs n D S k) = [] ∧ (meshIxs n D S k).all Ix.isAdv = true := by
  induction D, S, h using SelsOK.induction generalizing k with
  | nil => exact ⟨rfl, rfl, rfl, rfl⟩
  -- in every case the new head is an int or a mesh: it adds nothing to `listLens` and is advanced, so the last two
  -- conjuncts are those of the tail (`h3`) as they stand
  | keep _ _ _ _ ih =>
    obtain ⟨h1, h2, h3⟩ := ih (k + 1)
    exact ⟨congrArg (· + 1) h1, Bool.and_eq_true_iff.mpr
      ⟨List.all_eq_true.mpr fun x hx => decide_eq_true (List.mem_range.mp hx), h2⟩, h3⟩
  | item _ _ _ _ hp _ ih =>
    obtain ⟨h1, h2, h3⟩ := ih k
    exact ⟨congrArg (· + 1) h1, Bool.and_eq_true_iff.mpr ⟨decide_eq_true hp, h2⟩, h3⟩
  | sub _ _ _ _ _ hps _ ih =>
    obtain ⟨h1, h2, h3⟩ := ih (k + 1)
    exact ⟨congrArg (· + 1) h1, Bool.and_eq_true_iff.mpr
      ⟨List.all_eq_true.mpr fun p hp => decide_eq_true (hps.2 p hp), h2⟩, h3⟩

theorem mesh_anyArr (k : Nat) (hs : S.any DSel.isSub = true) :
    (meshIxs n D S k).any Ix.isArr = true := by
  induction D, S, h using SelsOK.induction generalizing k with
  | nil => exact Bool.noConfusion hs
  | keep => rfl
  | item _ _ _ _ _ _ ih => exact ih _ hs
  | sub => rfl

/-- one mesh component per kept or subset dimension, numbered from `k`, all of one `np.ix_` call -/
theorem mesh_meshInfos (k : Nat) : meshInfos (meshIxs n D S k) =
    ((DimSet.shape (outDims D S)).zipIdx k).map fun p => (p.1, p.2, n) := by
  induction D, S, h using SelsOK.induction generalizing k with
  | nil => rfl
  | keep d _ _ _ ih =>
    show ((List.range d.len).length, k, n) :: meshInfos _ = (d.len, k, n) :: _
    rw [ih, List.length_range]; rfl
  | item _ _ _ _ _ _ ih => exact ih k
  | sub _ _ _ d' ps hps _ ih =>
    show (ps.length, k, n) :: meshInfos _ = (d'.len, k, n) :: _
    rw [ih, hps.1]; rfl

/-- source index of the mesh regime: `b` holds the result coordinates; the k-th mesh reads `b[k]` -/
theorem mesh_src (e : Env) (k : Nat) (b : List Nat) (hv : Valid (outDims D S) e)
    (hb : b.drop k = (letters (outDims D S)).map e) :
    srcAdv b (meshIxs n D S k) [] = liftIdx D S e := by
  induction D, S, h using SelsOK.induction generalizing k with
  | nil => rfl
  | keep d _ _ _ ih =>
    obtain ⟨hk, hb'⟩ := drop_eq_cons hb
    show (List.range d.len).getD (b.getD k 0) 0 :: _ = e d.letter :: _
    rw [hk, ih _ (fun d' hd' => hv d' (List.mem_cons_of_mem _ hd')) hb',
      List.getD_eq_getElem?_getD, List.getElem?_range (hv d List.mem_cons_self)]
    rfl
  | item _ _ _ p _ _ ih => exact congrArg (p :: ·) (ih k hv hb)
  | sub _ _ _ d' ps _ _ ih =>
    obtain ⟨hk, hb'⟩ := drop_eq_cons hb
    show ps.getD (b.getD k 0) 0 :: _ = ps.getD (e d'.letter) 0 :: _
    rw [hk, ih _ (fun d'' hd'' => hv d'' (List.mem_cons_of_mem _ hd'')) hb']

end

/-- the plan numpy follows for ints and `np.ix_` meshes: the broadcast axes (one per kept or
subset dimension, in order) are the whole result -/
theorem indexPlan_mesh (D : DimSet) (S : List DSel) (h : SelsOK D S) (hs : ∃ s ∈ S, s.isSub = true) :
    ∃ p, indexPlan (DimSet.shape D) (convertMesh D (S.map DSel.toIx)) = some p ∧
      p.shape = DimSet.shape (outDims D S) ∧
      ∀ e, Valid (outDims D S) e → p.src ((letters (outDims D S)).map e) = liftIdx D S e := by
  have hs' : S.any DSel.isSub = true := List.any_eq_true.mpr hs
  have hB : (DimSet.shape (outDims D S)).length = (outDims D S).length := List.length_map _
  rw [convertMesh_eq h hs']
  obtain ⟨hlen, hin, hll, hadv⟩ := meshIxs_fits (outDims D S).length h 0
  have hp := indexPlan_allAdv (DimSet.shape D) (meshIxs (outDims D S).length D S 0) (DimSet.shape (outDims D S))
    (hlen.trans (List.length_map _).symm) hin (bshape_mesh hll (by rw [mesh_meshInfos _ h 0, hB]))
    (mesh_anyArr _ h 0 hs') hadv
  refine ⟨_, hp, rfl, fun e hv => ?_⟩
  have hl : ((letters (outDims D S)).map e).length = (DimSet.shape (outDims D S)).length :=
    (List.length_map _).trans ((List.length_map _).trans hB.symm)
  show srcAdv (List.take _ _) _ (List.drop _ _) = _
  rw [← hl, List.take_length, List.drop_length]
  exact mesh_src _ h e 0 _ hv rfl

/-! ## both regimes -/

theorem convertMesh_noSub (D : DimSet) {S : List DSel} (hn : S.any DSel.isSub = false) :
    convertMesh D (S.map DSel.toIx) = S.map DSel.toIx := by
  unfold convertMesh
  rw [List.any_map, isListIx_toIx, hn]
  rfl

/-- the plan numpy follows for the handler's index tuple, whatever the selectors -/
theorem plan_spec (D : DimSet) (S : List DSel) (h : SelsOK D S) :
    ∃ p, indexPlan (DimSet.shape D) (convertMesh D (S.map DSel.toIx)) = some p ∧
      p.shape = DimSet.shape (outDims D S) ∧
      ∀ e, Valid (outDims D S) e → p.src ((letters (outDims D S)).map e) = liftIdx D S e := by
  cases hs : S.any DSel.isSub with
  | true => exact indexPlan_mesh D S h (List.any_eq_true.mp hs)
  | false =>
    rw [convertMesh_noSub D hs]
    obtain ⟨p, hp, hsh, hsrc⟩ := indexPlan_basic D S h fun s hs' =>
      Bool.eq_false_iff.mpr (List.any_eq_false.mp hs s hs')
    exact ⟨p, hp, hsh, fun e _ => hsrc e⟩

end Flodym
