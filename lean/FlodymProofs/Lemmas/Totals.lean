import FlodymProofs.Lemmas.Fubini
import FlodymProofs.Lemmas.Reduce
import FlodymProofs.Lemmas.Cast
/-!
# Marginals of marginals, grand totals, summing back after a cast
-/
namespace Flodym
open DimSet

variable {α : Type}

/-- all (letter, length) pairs of a dimension list -/
def allPairs (D : DimSet) : List (Char × Nat) := D.map (fun d => (d.letter, d.len))

theorem summedOf_fst (D : DimSet) (keep : List Char) :
    (summedOf D keep).map Prod.fst = (letters D).filter (fun l => !(keep.contains l)) := by
  unfold summedOf
  rw [List.map_map, ← letters_filter D (fun l => !(keep.contains l))]
  rfl

theorem mem_summedOf_fst {D : DimSet} {keep : List Char} {c : Char} :
    c ∈ (summedOf D keep).map Prod.fst ↔ c ∈ letters D ∧ c ∉ keep := by
  rw [summedOf_fst, List.mem_filter, not_contains_eq_true_iff]

theorem summedOf_congr_keep (D : DimSet) {L L' : List Char} (h : ∀ c, c ∈ L ↔ c ∈ L') :
    summedOf D L = summedOf D L' :=
  congrArg (List.map _) <| List.filter_congr fun d _ => Bool.eq_iff_iff.mpr <| by
    rw [not_contains_eq_true_iff, not_contains_eq_true_iff, h]

section monoid
variable [AddCommMonoid α]

/-- grand total of an array: the sum of all its entries, by label -/
def total (x : FArr α) (e : Env) : α := sumOver (allPairs x.dims) x.at e

/-- summing a marginal further = the marginal over fewer dimensions: `A` are dimensions of `x`
(distinct letters), `L' ⊆ letters A` -/
theorem margin_of_margin (x : FArr α) (hx : WF x) (A : DimSet) (hA : ∀ d ∈ A, d ∈ x.dims)
    (hAn : (letters A).Nodup) (L' : List Char) (hL : ∀ l ∈ L', l ∈ letters A) (e : Env) :
    sumOver (summedOf A L') (fun e' => margin x (letters A) e') e = margin x L' e := by
  unfold margin
  rw [← sumOver_append]
  -- the dimensions summed in the two stages have distinct letters …
  have hsplit : (letters (A.filter (fun d => !(L'.contains d.letter)) ++
      x.dims.filter (fun d => !((letters A).contains d.letter)))).Nodup :=
    nodup_letters_append.mpr ⟨nodup_letters_filter hAn, nodup_letters_filter hx.1, fun d hd hm =>
      not_contains_eq_true_iff.mp (List.mem_filter.mp hd).2 (letters_sub (fun _ => List.mem_of_mem_filter) _ hm)⟩
  unfold summedOf
  rw [← List.map_append]
  -- … and are the dimensions summed at once, in another order
  refine sumOver_perm (List.Perm.map _ ((List.perm_ext_iff_of_nodup (nodup_of_nodup_map hsplit)
    ((nodup_of_nodup_map hx.1).filter _)).mpr fun d => ?_)) _ (by rw [List.map_map]; exact hsplit) e
  simp only [List.mem_append, List.mem_filter, not_contains_eq_true_iff]
  constructor
  · rintro (⟨hdA, hnot⟩ | ⟨hdx, hnot⟩)
    · exact ⟨hA d hdA, hnot⟩
    · exact ⟨hdx, fun h => hnot (hL _ h)⟩
  · rintro ⟨hdx, hnot⟩
    by_cases hl : d.letter ∈ letters A
    · obtain ⟨d', hd', hl'⟩ := mem_letters.mp hl
      exact .inl ⟨inj_of_nodup_map hx.1 (hA d' hd') hdx hl' ▸ hd', hnot⟩
    · exact .inr ⟨hdx, hl⟩

theorem margin_env_congr (x : FArr α) (keep : List Char) (e e' : Env)
    (h : ∀ c ∈ x.letters, c ∈ keep → e c = e' c) : margin x keep e = margin x keep e' := by
  unfold margin
  apply sumOver_env_congr x.letters
  · intro e1 e2 heq
    unfold FArr.at
    rw [List.map_congr_left heq]
  · exact fun c hc hnot => h c hc (Decidable.not_not.mp fun hk => hnot (mem_summedOf_fst.mpr ⟨hc, hk⟩))

theorem total_eq_margin (x : FArr α) (e : Env) : total x e = margin x [] e := by
  rw [margin, summedOf, filter_notin_eq_self fun _ _ => List.not_mem_nil]; rfl

end monoid

section semiring
variable [Semiring α]

/-- number of label combinations of the dimensions of `T` that `x` does not have -/
def addedCount (x : FArr α) (T : DimSet) : ℕ := ((summedOf T x.letters).map Prod.snd).prod

theorem margin_castTo (x r : FArr α) (T : DimSet) (hT : (letters T).Nodup) (hrd : r.dims = T)
    (hr : ∀ e, Valid T e → r.at e = x.at e) (e : Env) (hv : Valid T e) :
    margin r x.letters e = (addedCount x T : α) * x.at e := by
  unfold margin addedCount
  rw [hrd, ← sumOver_const (summedOf T x.letters) (x.at e) e]
  apply sumOver_congr_inside
  intro e' hoff hin
  -- inside the sum the environment is still valid for T and unchanged on x's letters
  have hx : ∀ c ∈ x.letters, e' c = e c := fun c hc =>
    hoff c fun h => (mem_summedOf_fst.mp h).2 hc
  have hv' : Valid T e' := by
    intro d hd
    by_cases hs : d.letter ∈ (summedOf T x.letters).map Prod.fst
    · obtain ⟨n, hm, hlt⟩ := hin _ hs
      obtain ⟨d', hd', hdl⟩ := List.mem_map.mp hm
      obtain ⟨hl, rfl⟩ := Prod.mk.inj hdl
      rwa [inj_of_nodup_map hT (List.mem_filter.mp hd').1 hd hl] at hlt
    · rw [hoff _ hs]; exact hv d hd
  rw [hr e' hv']
  exact congrArg x.values.get (List.map_congr_left hx)

end semiring

/-! ## `sum_values()` (numpy sum over the flattened values) is the grand total by label -/
section
variable [AddCommMonoid α]

/-- the nested sum over all dimensions, in storage order, visits the index tuples in row-major order -/
theorem sumOver_allPairs (D : DimSet) (hnd : (letters D).Nodup) (g : List Nat → α) (e : Env) :
    sumOver (allPairs D) (fun e' => g ((letters D).map e')) e = ((allIdx (DimSet.shape D)).map g).sum := by
  induction D generalizing g e with
  | nil => exact (add_zero _).symm
  | cons d D ih =>
    obtain ⟨hd, hD⟩ := List.nodup_cons.mp hnd
    show sumRange d.len _ = (((List.range d.len).flatMap fun i => (allIdx (DimSet.shape D)).map (i :: ·)).map g).sum
    rw [List.map_flatMap, List.flatMap_def, List.sum_flatten, List.map_map, sumRange_eq_foldr_map]
    refine congrArg List.sum (List.map_congr_left fun i _ => ?_)
    rw [Function.comp_apply, List.map_map, ← ih hD _ (e.set d.letter i)]
    -- inside the inner sums the letter of `d` is still bound to `i`
    refine sumOver_congr_inside fun e' hoff _ => ?_
    show g (e' d.letter :: _) = _
    rw [hoff _ (by rwa [List.map_map]), Env.set_same]; rfl

theorem sumValues_eq_total (x : FArr α) (hx : WF x) (e : Env) : x.sumValues = total x e := by
  unfold total FArr.at FArr.letters
  rw [sumOver_allPairs x.dims hx.1, ← hx.2]; rfl

end
end Flodym
