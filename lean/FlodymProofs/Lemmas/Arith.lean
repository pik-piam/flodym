import FlodymProofs.Lemmas.Einsum
import FlodymProofs.Lemmas.DimSets
/-!
# Spec lemmas for the arithmetic operators (core Lean only)
-/
namespace Flodym
open DimSet

variable {α : Type}

section
variable [Add α] [OfNat α 0]

/-- `__add__`, `__sub__`, `minimum`, `maximum` (elementwise `f`) between two arrays -/
theorem addLike_arr_spec (f : α → α → α) (x y : FArr α) (hx : WF x) (hy : WF y)
    (hc : Compatible x.dims y.dims) [Mul α] [OfNat α 1] :
    Yields (FArr.addLike? f x (.arr y)) (intersectWith x.dims y.dims) fun e =>
      f (margin x (letters (intersectWith x.dims y.dims)) e)
        (margin y (letters (intersectWith x.dims y.dims)) e) := by
  have hnd := nodup_letters_intersectWith x.dims y.dims hx.1
  obtain ⟨v1, h1, hs1, hg1⟩ := sumValuesToL_spec x hx _ intersectWith_sub_left hnd
  obtain ⟨v2, h2, hs2, hg2⟩ := sumValuesToL_spec y hy _ (intersectWith_sub_right hc) hnd
  have : FArr.addLike? f x (.arr y) = FArr.mk? (intersectWith x.dims y.dims)
      { shape := v1.shape, get := fun i => f (v1.get i) (v2.get i) } := by
    simp only [FArr.addLike?, FArr.prepareOther?, Option.bind_eq_bind, Option.bind_some, h1, h2,
      ND.zipWith?, if_pos (hs1.trans hs2.symm)]
  rw [this]
  exact Yields.congr (Yields.mk hnd hs1) fun e => by rw [← hg1, ← hg2]

end

/-- a plain number as operand: an array over x's own dimensions (`c * 1`: the code multiplies the number into
`np.ones(shape)`, and nothing here says that `1` is neutral; the property theorems do, in a ring) -/
theorem ofNumber?_spec [Mul α] [OfNat α 1] (x : FArr α) (hxn : x.letters.Nodup) (c : α) :
    Yields (x.ofNumber? c) x.dims fun _ => c * 1 :=
  Yields.mk hxn rfl

section
variable [Add α] [OfNat α 0] [Mul α] [OfNat α 1]

theorem mul_arr_spec (x y : FArr α) (hx : WF x) (hy : WF y) (hc : Compatible x.dims y.dims) :
    Yields (FArr.mul? x (.arr y)) (unionDims x.dims y.dims) fun e => x.at e * y.at e := by
  have hnd := nodup_letters_union hx.1 hy.1
  have : FArr.mul? x (.arr y) = FArr.mk? (unionDims x.dims y.dims)
      (einsum2Raw x.letters y.letters (letters (unionDims x.dims y.dims)) x.values y.values) := by
    simp only [FArr.mul?, FArr.prepareOther?, Option.bind_eq_bind, Option.bind_some,
      unionWith?_eq hx.1 hy.1, Gen.mulIn1, Gen.mulIn2, Gen.mulOut, einsum2,
      einsum2Ok_union x y hx hy hc, if_true]
  rw [this]
  exact (Yields.mk hnd (union_shape x y hx hy)).congr fun e =>
    einsum2Raw_get_full e hnd (fun _ h => mem_letters_union.mpr (.inl h))
      (fun _ h => mem_letters_union.mpr (.inr h))

/-- `__truediv__` unfolds to `__mul__` by the array of reciprocals: the generated subscripts coincide -/
theorem div_arr_spec [Div α] (x y : FArr α) (hx : WF x) (hy : WF y) (hc : Compatible x.dims y.dims) :
    Yields (FArr.div? x (.arr y)) (unionDims x.dims y.dims) fun e => x.at e * (1 / y.at e) :=
  mul_arr_spec x ⟨y.dims, y.values.map fun b => 1 / b⟩ hx ⟨hy.1, hy.2⟩ hc

/-! ## a plain number as right operand: `x`'s own dimensions, entrywise -/

theorem addLike_num_spec (f : α → α → α) (x : FArr α) (hx : WF x) (c : α) :
    Yields (FArr.addLike? f x (.num c)) x.dims fun e => f (x.at e) (c * 1) :=
  (ofNumber?_spec x hx.1 c).bind (k := fun n => FArr.addLike? f x (.arr n)) fun n hd hn hat => by
    have := addLike_arr_spec f x n hx hn (by rw [hd]; exact compatible_self hx.1)
    rw [hd, intersectWith_self] at this
    exact this.congr fun e => by
      rw [margin_of_sub x _ fun _ => letter_mem, margin_of_sub n _ fun _ h => hd ▸ letter_mem h, hat]

theorem mul_num_spec (x : FArr α) (hx : WF x) (c : α) :
    Yields (FArr.mul? x (.num c)) x.dims fun e => x.at e * (c * 1) :=
  (ofNumber?_spec x hx.1 c).bind (k := fun n => FArr.mul? x (.arr n)) fun n hd hn hat => by
    have := mul_arr_spec x n hx hn (by rw [hd]; exact compatible_self hx.1)
    rw [hd, unionDims_self] at this
    exact this.congr fun e => by rw [hat]

theorem div_num_spec [Div α] (x : FArr α) (hx : WF x) (c : α) :
    Yields (FArr.div? x (.num c)) x.dims fun e => x.at e * (1 / (c * 1)) :=
  (ofNumber?_spec x hx.1 c).bind (k := fun n => FArr.div? x (.arr n)) fun n hd hn hat => by
    have := div_arr_spec x n hx hn (by rw [hd]; exact compatible_self hx.1)
    rw [hd, unionDims_self] at this
    exact this.congr fun e => by rw [hat]

end

/-- `-x`, `abs`, `sign`, `apply(f)`: entry by entry, same dimensions -/
theorem mapValues_spec (f : α → α) (x : FArr α) (hx : WF x) :
    Yields (FArr.mapValues? f x) x.dims fun e => f (x.at e) :=
  Yields.mk (v := x.values.map f) hx.1 hx.2

theorem neg_spec [Neg α] (x : FArr α) (hx : WF x) :
    Yields (FArr.neg? x) x.dims fun e => -(x.at e) :=
  mapValues_spec (fun a => -a) x hx

end Flodym
