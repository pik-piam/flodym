import FlodymProofs.Lemmas.DimSets
/-!
# What the einsum mechanism means by label, for one operand and for two (core Lean only)
-/
namespace Flodym
open DimSet

variable {α : Type}

theorem sizeOfLetter_dims (D : DimSet) (hnd : (letters D).Nodup) (d : Dim) (hd : d ∈ D) :
    sizeOfLetter (letters D) (DimSet.shape D) d.letter = d.len := by
  induction D with
  | nil => cases hd
  | cons d0 D ih =>
    rw [letters, List.map_cons, List.nodup_cons] at hnd
    unfold sizeOfLetter at ih ⊢
    rw [letters, DimSet.shape, List.map_cons, List.map_cons, List.idxOf_cons]
    cases hd with
    | head => rw [beq_self_eq_true]; rfl
    | tail _ h =>
      rw [beq_false_of_ne fun (heq : d0.letter = d.letter) => hnd.1 (heq ▸ letter_mem h)]
      exact ih hnd.2 h

section wf
variable {x : FArr α} (hx : WF x)
include hx

theorem length_letters_eq : x.letters.length = x.values.shape.length := by
  rw [hx.2]; exact (List.length_map _).trans (List.length_map _).symm

theorem size_of_dim {d : Dim} (hd : d ∈ x.dims) :
    sizeOfLetter x.letters x.values.shape d.letter = d.len := by
  rw [hx.2]; exact sizeOfLetter_dims x.dims hx.1 d hd

theorem map_size_eq_shape (D : DimSet) (hD : ∀ d ∈ D, d ∈ x.dims) :
    (letters D).map (sizeOfLetter x.letters x.values.shape) = DimSet.shape D := by
  unfold letters DimSet.shape
  rw [List.map_map]
  exact List.map_congr_left fun d hd => size_of_dim hx (hD d hd)

/-- the left side is the list `summed` of `einsum1Raw` -/
theorem summed_eq_summedOf (out : List Char) :
    ((x.letters.filter (fun l => !(out.contains l))).map
        (fun l => (l, sizeOfLetter x.letters x.values.shape l)))
      = summedOf x.dims out := by
  unfold summedOf FArr.letters
  rw [← letters_filter x.dims (fun l => !(out.contains l))]
  unfold letters
  rw [List.map_map]
  exact List.map_congr_left fun d hd =>
    congrArg (Prod.mk d.letter) (size_of_dim hx (List.mem_filter.mp hd).1)

theorem einsum1Ok_of {out : List Char} (hnd : out.Nodup) (hsub : ∀ l ∈ out, l ∈ x.letters) :
    einsum1Ok x.letters out x.values = true := by
  unfold einsum1Ok
  simp only [Bool.and_eq_true, beq_iff_eq, decide_eq_true_eq, List.all_eq_true,
    List.contains_iff_mem]
  exact ⟨⟨⟨length_letters_eq hx, hx.1⟩, hnd⟩, hsub⟩

end wf

section
variable [Add α] [OfNat α 0]

theorem einsum1Raw_get {s out : List Char} {a : ND α} {e : Env} (hout : out.Nodup) :
    (einsum1Raw s out a).get (out.map e) =
      sumOver ((s.filter (fun l => !(out.contains l))).map (fun l => (l, sizeOfLetter s a.shape l)))
        (fun e' => a.get (s.map e')) e := by
  unfold einsum1Raw
  simp only
  apply sumOver_env_congr s
  · intro e1 e2 h
    rw [List.map_congr_left h]
  · intro c hc hnot
    -- a letter that is not summed is an output letter
    refine bind_map_self out e Env.zero hout c (Decidable.not_not.mp fun hco => hnot ?_)
    rw [List.map_map]
    exact List.mem_map.mpr ⟨c, List.mem_filter.mpr ⟨hc, not_contains_eq_true_iff.mpr hco⟩, rfl⟩

theorem einsum1Raw_shape (s out : List Char) (a : ND α) :
    (einsum1Raw s out a).shape = out.map (sizeOfLetter s a.shape) := rfl

/-- `sum_values_to` for distinct dimensions of `x`: the requested axes in the requested order,
holding the marginal sums -/
theorem sumValuesToL_spec (x : FArr α) (hx : WF x) (ds : DimSet) (hds : ∀ d ∈ ds, d ∈ x.dims)
    (hnd : (letters ds).Nodup) :
    ∃ v, x.sumValuesToL? (letters ds) = some v ∧ v.shape = DimSet.shape ds ∧
      ∀ e, v.get ((letters ds).map e) = margin x (letters ds) e := by
  refine ⟨einsum1Raw x.letters (letters ds) x.values, ?_, map_size_eq_shape hx ds hds, ?_⟩
  · unfold FArr.sumValuesToL? einsum1 Gen.sumToIn Gen.sumToOut
    rw [einsum1Ok_of hx hnd (letters_sub hds)]; rfl
  · intro e
    rw [einsum1Raw_get hnd, summed_eq_summedOf hx]
    rfl

/-- einsum refuses an output letter that is not among the input's -/
theorem sumValuesToL?_eq_none {x : FArr α} {L : List Char} (h : ∃ l ∈ L, l ∉ x.letters) :
    x.sumValuesToL? L = none := by
  unfold FArr.sumValuesToL? einsum1 einsum1Ok Gen.sumToIn Gen.sumToOut
  rw [all_contains_eq_false.mpr h, Bool.and_false]
  rfl

theorem margin_of_sub (x : FArr α) (L : List Char) (h : ∀ d ∈ x.dims, d.letter ∈ L) (e : Env) :
    margin x L e = x.at e := by
  rw [margin, summedOf, filter_notin_eq_nil h]; rfl

/-! ## two operands -/

variable [Mul α]

theorem einsum2Raw_get_full {s1 s2 out : List Char} {a b : ND α} (e : Env) (hout : out.Nodup)
    (h1 : ∀ l ∈ s1, l ∈ out) (h2 : ∀ l ∈ s2, l ∈ out) :
    (einsum2Raw s1 s2 out a b).get (out.map e) = a.get (s1.map e) * b.get (s2.map e) := by
  have hempty : ((s1 ++ s2).eraseDups.filter (fun l => !(out.contains l))) = [] := by
    rw [List.filter_eq_nil_iff]
    exact fun l hl hn => not_contains_eq_true_iff.mp hn
      ((List.mem_append.mp (List.mem_eraseDups.mp hl)).elim (h1 l) (h2 l))
  unfold einsum2Raw
  simp only [hempty, List.map_nil, sumOver]
  -- every input letter is an output letter, bound to its own label
  rw [List.map_congr_left fun c hc => bind_map_self out e Env.zero hout c (h1 c hc),
    List.map_congr_left fun c hc => bind_map_self out e Env.zero hout c (h2 c hc)]

end

/-- the left side is the shape of `einsum2Raw` at the subscripts of `x * y` -/
theorem union_shape (x y : FArr α) (hx : WF x) (hy : WF y) :
    (letters (unionDims x.dims y.dims)).map
      (fun l => if l ∈ x.letters then sizeOfLetter x.letters x.values.shape l
                else sizeOfLetter y.letters y.values.shape l)
      = DimSet.shape (unionDims x.dims y.dims) := by
  rw [letters, List.map_map]
  refine List.map_congr_left fun d hd => ?_
  rcases List.mem_append.mp hd with hd | hd
  · exact (if_pos (letter_mem hd)).trans (size_of_dim hx hd)
  · obtain ⟨hdy, hnot⟩ := List.mem_filter.mp hd
    exact (if_neg (not_contains_eq_true_iff.mp hnot)).trans (size_of_dim hy hdy)

/-- numpy accepts the subscripts of `x * y` -/
theorem einsum2Ok_union (x y : FArr α) (hx : WF x) (hy : WF y) (hc : Compatible x.dims y.dims) :
    einsum2Ok x.letters y.letters (letters (unionDims x.dims y.dims)) x.values y.values = true := by
  unfold einsum2Ok
  simp only [Bool.and_eq_true, beq_iff_eq, decide_eq_true_eq, List.all_eq_true,
    List.contains_iff_mem, Bool.or_eq_true, Bool.not_eq_true']
  -- in the order of `einsum2Ok`: the two lengths, the three `Nodup`s; then every output letter is an input letter
  -- (first `?_`) and a letter of both operands has one size (second `?_`, by `hc`)
  refine ⟨⟨⟨⟨⟨⟨length_letters_eq hx, length_letters_eq hy⟩, hx.1⟩, hy.1⟩, nodup_letters_union hx.1 hy.1⟩, ?_⟩, ?_⟩
  · exact fun l => mem_letters_union.mp
  · intro l hl
    by_cases hly' : l ∈ y.letters
    · obtain ⟨d, hd, rfl⟩ := mem_letters.mp hl
      obtain ⟨d', hd', hl'⟩ := mem_letters.mp hly'
      right
      rw [size_of_dim hx hd, hl'.symm, size_of_dim hy hd', hc d hd d' hd' hl'.symm]
    · left; simpa using hly'

end Flodym
