import Flodym.Store
/-!
# The two abstract stores of `Flodym/Store.lean`: reads after a binding, reads after a write (core Lean only)
-/
namespace Flodym

variable {α β : Type}

namespace SStore

theorem find?_filter_ne {l : List (Nat × FArr α)} {h h' : Nat} (hh : h' ≠ h) :
    (l.filter (·.1 != h)).find? (·.1 == h') = l.find? (·.1 == h') := by
  rw [List.find?_filter]
  congr; funext p
  cases e : p.1 == h'
  · exact decide_eq_false fun hc => Bool.noConfusion hc.2
  · exact decide_eq_true ⟨bne_iff_ne.mpr (eq_of_beq e ▸ hh), rfl⟩

theorem get?_put (s : SStore α) (h h' : Nat) (x : FArr α) :
    (s.put h x).get? h' = if h' = h then some x else s.get? h' := by
  unfold SStore.put SStore.get?
  rw [List.find?_cons]
  by_cases hh : h' = h
  · rw [hh, if_pos rfl]; simp only [beq_self_eq_true]; rfl
  · rw [if_neg hh, find?_filter_ne hh]
    simp only [beq_false_of_ne (Ne.symm hh)]

end SStore

namespace Heap

theorem owner_allocFresh (h : Heap β) (hd : Nat) (c : β) (x : Nat) :
    (h.allocFresh hd c).owner x = if x = hd then some h.next else h.owner x := rfl

theorem read_allocFresh_self (h : Heap β) (hd : Nat) (c : β) : (h.allocFresh hd c).read hd = some c := by
  simp only [read, allocFresh, if_true, Option.bind_some]

/-- a write shows only in the handles that share the written buffer -/
theorem read_write_of_ne (h : Heap β) (hd : Nat) (c : β) (hd' : Nat) (hne : h.owner hd ≠ h.owner hd') :
    (h.write hd c).read hd' = h.read hd' := by
  unfold write read
  cases ho : h.owner hd with
  | none => rfl
  | some b =>
    cases ho' : h.owner hd' with
    | none => rfl
    | some b' => exact if_neg fun e => hne (ho.trans ((congrArg some e.symm).trans ho'.symm))

end Heap
end Flodym
