import FlodymProofs.Lemmas.IndexPlan
import FlodymProofs.Lemmas.Lookup
/-!
# From a dict key to per-dimension selectors (`SubArrayHandler.__init__`), core Lean only

`Decodes D kvs S S'` : processing the dict entries `kvs` in order turns the selector state `S`
(aligned with the dimensions `D`) into `S'`. The side conditions are exactly the situations in
which the Python neither raises nor is ambiguous: every key addresses one (still unselected)
dimension of the current set, and a replacing `Dimension` brings a letter the current set lacks.
The Python looks every key up twice, in the array's dimensions (`_init_ids`) and in the evolving `dims_out`
(`_init_dims_out`): hence the two "only `d` matches" premises of `Decodes.cons`, over `D` and over `outDims D S`;
each of the two folds below uses one of them.
-/
namespace Flodym
open DimSet SubArray

/-- what one dict value asks of dimension `d` (`_set_ids_single_dim`) -/
def convSel (d : Dim) : Sel → Option DSel
  | .item it => (d.index? it).map DSel.item
  | .dim d' => if d'.isSubset d then (d'.items.mapM d.index?).map (DSel.sub d') else none
  | .list _ => none      -- lists are handled separately (writes only)

inductive Decodes (D : DimSet) : List (String × Sel) → List DSel → List DSel → Prop where
  | nil (S : List DSel) : Decodes D [] S S
  | cons {k : String} {sel : Sel} {rest : List (String × Sel)} {S S' : List DSel} {d : Dim} {i : Nat}
      {ds : DSel} :
      D[i]? = some d → S[i]? = some DSel.keep →
      keyMatches d k = true →
      (∀ x ∈ D, keyMatches x k = true → x = d) →
      (∀ x ∈ outDims D S, keyMatches x k = true → x = d) →
      convSel d sel = some ds →
      (∀ d' ps, ds = DSel.sub d' ps → d'.letter ∉ letters (outDims D S)) →
      Decodes D rest (S.set i ds) S' →
      Decodes D ((k, sel) :: rest) S S'

/-! ## slots of the evolving `dims_out` -/

/-- the dimensions one selector leaves in the result -/
def DSel.out (d : Dim) : DSel → List Dim
  | .keep => [d]
  | .item _ => []
  | .sub d' _ => [d']

theorem outDims_cons (d : Dim) (D : DimSet) (s : DSel) (S : List DSel) :
    outDims (d :: D) (s :: S) = s.out d ++ outDims D S := by cases s <;> rfl

/-- the slot of a still unselected dimension in the evolving `dims_out`, and what a selector
put at its position leaves there -/
theorem outDims_slot {D : DimSet} {S : List DSel} {i : Nat} {d : Dim}
    (hD : D[i]? = some d) (hS : S[i]? = some DSel.keep) :
    ∃ pre post, outDims D S = pre ++ d :: post ∧ ∀ s, outDims D (S.set i s) = pre ++ (s.out d ++ post) := by
  induction D generalizing S i with
  | nil => cases hD
  | cons d0 D ih =>
    cases S with
    | nil => cases hS
    | cons s0 S =>
      cases i with
      | zero => cases hD; cases hS; exact ⟨[], outDims D S, rfl, fun s => outDims_cons ..⟩
      | succ i =>
        obtain ⟨pre, post, h1, h2⟩ := ih (i := i) hD hS
        exact ⟨s0.out d0 ++ pre, post, by rw [outDims_cons, h1, List.append_assoc],
          fun s => by rw [List.set_cons_succ, outDims_cons, h2, List.append_assoc]⟩

/-- `outDims_slot` in the words of `_init_dims_out`: dropping the dimension (`list.remove`), or
replacing it at its position (`dims_out[index] = sub`) -/
theorem slot_facts {D : DimSet} {S : List DSel} {i : Nat} {d : Dim}
    (hD : D[i]? = some d) (hS : S[i]? = some DSel.keep) (hnd : (letters (outDims D S)).Nodup) :
    d ∈ outDims D S ∧
    (∀ p, (outDims D S).erase d = outDims D (S.set i (DSel.item p))) ∧
    (∀ d' ps, (outDims D S).set ((outDims D S).idxOf d) d' = outDims D (S.set i (DSel.sub d' ps))) := by
  obtain ⟨pre, post, h1, h2⟩ := outDims_slot hD hS
  have hpre : d ∉ pre := by
    rw [h1, letters, List.map_append, List.map_cons] at hnd
    exact fun hm => (List.nodup_append.mp hnd).2.2 _ (List.mem_map_of_mem hm) _ List.mem_cons_self rfl
  refine ⟨h1 ▸ List.mem_append_right _ List.mem_cons_self, fun p => ?_, fun d' ps => ?_⟩
  · rw [h2, h1, List.erase_append_right _ hpre, List.erase_cons_head]; rfl
  · -- `d` is not in `pre`, so `idxOf d = pre.length`, and `set` there replaces the head of `d :: post`
    rw [h2, h1, List.idxOf_append, if_neg hpre, List.idxOf_cons_self, Nat.zero_add,
      List.set_append_right _ _ (Nat.le_refl _), Nat.sub_self, List.set_cons_zero]
    rfl

/-! ## the two folds of the handler -/

theorem convSel_eq_some {d : Dim} {sel : Sel} {ds : DSel} (h : convSel d sel = some ds) :
    (∃ it p, sel = .item it ∧ d.index? it = some p ∧ ds = .item p) ∨
    (∃ d' ps, sel = .dim d' ∧ d'.isSubset d = true ∧ d'.items.mapM d.index? = some ps ∧
      ds = .sub d' ps) := by
  cases sel with
  | item it =>
    obtain ⟨p, hp, rfl⟩ := Option.map_eq_some_iff.mp h
    exact .inl ⟨it, p, rfl, hp, rfl⟩
  | dim d' =>
    obtain ⟨hsub, h⟩ := Option.ite_none_right_eq_some.mp h
    obtain ⟨ps, hps, rfl⟩ := Option.map_eq_some_iff.mp h
    exact .inr ⟨d', ps, rfl, hsub, hps, rfl⟩
  | list its => cases h

theorem idsSingle?_eq {D : DimSet} {k : String} {sel : Sel} {d : Dim} {i : Nat} {ds : DSel}
    (hDn : D.Nodup) (hD : D[i]? = some d) (hm : keyMatches d k = true)
    (honly : ∀ x ∈ D, keyMatches x k = true → x = d) (hc : convSel d sel = some ds) :
    idsSingle? D k sel = some (i, ds.toIx) := by
  have hmem : d ∈ D := List.mem_of_getElem? hD
  obtain ⟨hi, rfl⟩ := List.getElem?_eq_some_iff.mp hD
  unfold idsSingle?
  rw [lookup?_of_only D k _ hmem hm honly, index?_of_only D k _ hmem hm honly,
    List.Nodup.idxOf_getElem hDn i hi]
  rcases convSel_eq_some hc with ⟨it, p, rfl, hx, rfl⟩ | ⟨d', ps, rfl, hsub, hx, rfl⟩
  · simp only [Option.bind_eq_bind, Option.bind_some, hx, Option.map_some, DSel.toIx]
  · simp only [Option.bind_eq_bind, Option.bind_some, hsub, if_true, hx, Option.map_some, DSel.toIx]

/-- `_init_ids` (before the mesh conversion) yields the per-dimension index of every selector -/
theorem idsFold_of_decodes {D : DimSet} (hDn : D.Nodup) {kvs : List (String × Sel)} {S S' : List DSel}
    (h : Decodes D kvs S S') :
    kvs.foldlM (fun ids (kv : String × Sel) =>
        (idsSingle? D kv.1 kv.2).map fun (p, ix) => ids.set p ix) (S.map DSel.toIx)
      = some (S'.map DSel.toIx) := by
  induction h with
  | nil S => rfl
  | @cons k sel rest S S' d i ds hD hS hm honly _ hc _ _ ih =>
    simp only [List.foldlM_cons]
    rw [idsSingle?_eq hDn hD hm honly hc]
    simp only [Option.map_some, Option.bind_eq_bind, Option.bind_some]
    rw [← List.map_set]
    exact ih

/-- `_init_dims_out` yields `outDims` -/
theorem dimsOut_of_decodes {D : DimSet} {kvs : List (String × Sel)} {S S' : List DSel}
    (h : Decodes D kvs S S') (hnd : (letters (outDims D S)).Nodup) :
    dimsOut? (outDims D S) kvs = some (outDims D S') ∧ (letters (outDims D S')).Nodup := by
  induction h with
  | nil S => exact ⟨rfl, hnd⟩
  | @cons k sel rest S S' d i ds hD hS hm _ honlyC hc hfresh _ ih =>
    obtain ⟨hmem, herase, hset⟩ := slot_facts hD hS hnd
    rcases convSel_eq_some hc with ⟨it, p, rfl, hx, rfl⟩ | ⟨d', ps, rfl, hsub, hx, rfl⟩
    · -- an item: `dims_out.remove(d)`
      obtain ⟨ih1, ih2⟩ := ih (herase p ▸ (List.erase_sublist.map _).nodup hnd)
      refine ⟨?_, ih2⟩
      simp only [dimsOut?, drop?, lookup?_of_only _ k d hmem hm honlyC, Option.map_some,
        Option.bind_some, herase p]
      exact ih1
    · -- a `Dimension`: `dims_out[index] = d'`
      have hfr := hfresh d' ps rfl
      obtain ⟨ih1, ih2⟩ := ih (by
        rw [← hset d' ps, letters, List.map_set]
        exact nodup_set_fresh hnd _ hfr)
      refine ⟨?_, ih2⟩
      have hcont : (letters (outDims D S)).contains d'.letter = false :=
        Bool.eq_false_iff.mpr fun h => hfr (List.contains_iff_mem.mp h)
      simp only [dimsOut?, replace?, hcont, Bool.false_eq_true, if_false,
        index?_of_only _ k d hmem hm honlyC, Option.map_some, Option.bind_some, hset d' ps]
      exact ih1

theorem decodes_not_iterable {D : DimSet} {kvs : List (String × Sel)} {S S' : List DSel}
    (h : Decodes D kvs S S') : kvs.any (·.2.isIterable) = false := by
  induction h with
  | nil S => rfl
  | @cons k sel rest S S' d i ds _ _ _ _ _ hc _ _ ih =>
    simp only [List.any_cons, ih, Bool.or_false]
    cases sel with
    | item it => rfl
    | dim d' => rfl
    | list its => cases hc

/-- `SubArrayHandler.__init__` for a dict key -/
theorem handler_dict_spec (D : DimSet) (hnd : (letters D).Nodup) (kvs : List (String × Sel))
    (S' : List DSel) (hdec : Decodes D kvs (D.map fun _ => DSel.keep) S') :
    handler? D (.dict kvs) = some ⟨kvs, false, outDims D S', convertMesh D (S'.map DSel.toIx)⟩ ∧
      (letters (outDims D S')).Nodup := by
  obtain ⟨hdo, hndo⟩ := dimsOut_of_decodes hdec (by rw [outDims_keep]; exact hnd)
  have hids := idsFold_of_decodes (nodup_of_nodup_map hnd) hdec
  rw [outDims_keep] at hdo
  rw [toIx_keep] at hids
  refine ⟨?_, hndo⟩
  unfold handler? defDict? idsRaw?
  simp only [Option.bind_eq_bind, Option.bind_some, hdo, hids, decodes_not_iterable hdec]

/-! ## a bare item as key -/

theorem keySingleItem?_eq_none {D : DimSet} {it : Item}
    (h : (D.filter (fun d => d.items.contains it)).length ≠ 1) : keySingleItem? D it = none := by
  unfold keySingleItem?
  generalize D.filter (fun d => d.items.contains it) = l at h
  match l, h with
  | [], _ => rfl
  | [_], h => exact absurd rfl h
  | _ :: _ :: _, _ => rfl

end Flodym
