import FlodymProofs.Lemmas.Core
/-!
# Lookup of dimensions by letter / name (`_full_mapping`) — core Lean only
-/
namespace Flodym
open DimSet

/-- every dimension satisfies the pydantic field constraint on names (at least two characters),
so that a name can never be mistaken for a letter -/
def NamesOk (D : DimSet) : Prop := ∀ d ∈ D, 2 ≤ d.name.length

instance (D : DimSet) : Decidable (NamesOk D) := by unfold NamesOk; exact inferInstance

/-- a letter is one character, a name at least two -/
theorem toString_ne_name {D : DimSet} (hn : NamesOk D) {d : Dim} (hd : d ∈ D) (l : Char) :
    l.toString ≠ d.name := by
  intro h
  have := hn d hd
  rw [← h, Char.toString_eq_singleton, String.length_singleton] at this
  omega

theorem keyMatches_letter {D : DimSet} (hn : NamesOk D) {d : Dim} (hd : d ∈ D) {l : Char} :
    keyMatches d l.toString = true ↔ d.letter = l := by
  unfold keyMatches
  rw [beq_eq_false_iff_ne.mpr (toString_ne_name hn hd l).symm, Bool.false_or, beq_iff_eq]
  exact String.singleton_inj

theorem lookup?_of_only (C : DimSet) (k : String) (d : Dim) (hd : d ∈ C) (hm : keyMatches d k = true)
    (honly : ∀ x ∈ C, keyMatches x k = true → x = d) : lookup? C k = some d := by
  unfold lookup?
  exact find?_unique _ d (List.mem_reverse.mpr hd) hm fun x hx hp => honly x (List.mem_reverse.mp hx) hp

theorem index?_of_only (C : DimSet) (k : String) (d : Dim) (hd : d ∈ C) (hm : keyMatches d k = true)
    (honly : ∀ x ∈ C, keyMatches x k = true → x = d) : index? C k = some (C.idxOf d) := by
  unfold index?
  rw [lookup?_of_only C k d hd hm honly]
  exact if_pos (List.idxOf_lt_length_of_mem hd)

theorem lookup?_letter (D : DimSet) (hnd : (letters D).Nodup) (hn : NamesOk D) (d : Dim) (hd : d ∈ D) :
    lookup? D d.letter.toString = some d :=
  lookup?_of_only D _ d hd ((keyMatches_letter hn hd).mpr rfl) fun d' hd' hp =>
    inj_of_nodup_map hnd hd' hd ((keyMatches_letter hn hd').mp hp)

theorem lookup?_name (D : DimSet) (hnames : (names D).Nodup) (hn : NamesOk D) (d : Dim) (hd : d ∈ D) :
    lookup? D d.name = some d := by
  refine lookup?_of_only D _ d hd (by rw [keyMatches, beq_self_eq_true, Bool.true_or]) fun d' hd' hp => ?_
  -- a name is no letter, so `d'` is matched by its name
  unfold keyMatches at hp
  rw [beq_eq_false_iff_ne.mpr (toString_ne_name hn hd _), Bool.or_false, beq_iff_eq] at hp
  exact inj_of_nodup_map hnames hd' hd hp

theorem lookup?_unknown (D : DimSet) (key : String)
    (h : ∀ d ∈ D, d.name ≠ key ∧ d.letter.toString ≠ key) : lookup? D key = none := by
  unfold lookup?
  rw [List.find?_eq_none]
  intro d hd
  obtain ⟨h1, h2⟩ := h d (List.mem_reverse.mp hd)
  unfold keyMatches
  rw [Bool.or_eq_true, beq_iff_eq, beq_iff_eq]
  exact fun h' => h'.elim h1 h2

/-- `get_subset(keys)` returns the dimensions the keys stand for, in the requested order -/
theorem getSubset?_of_keys (D : DimSet) (key : Dim → String) (ds : List Dim)
    (hk : ∀ d ∈ ds, lookup? D (key d) = some d) (hdn : (letters ds).Nodup) :
    getSubset? D (some (ds.map key)) = some ds := by
  show (List.mapM (lookup? D) (ds.map key)).bind DimSet.mk? = some ds
  rw [List.mapM_map, mapM_eq_some_map (f := lookup? D ∘ key) (g := id) hk, List.map_id]
  exact if_pos hdn

theorem getSubset?_letters (D : DimSet) (hnd : (letters D).Nodup) (hn : NamesOk D)
    (ds : List Dim) (hds : ∀ d ∈ ds, d ∈ D) (hdn : (letters ds).Nodup) :
    getSubset? D (some ((letters ds).map (·.toString))) = some ds := by
  rw [letters, List.map_map]
  exact getSubset?_of_keys D _ ds (fun d hd => lookup?_letter D hnd hn d (hds d hd)) hdn

theorem getSubset?_unknown (D : DimSet) (keys : List String) (key : String) (hk : key ∈ keys)
    (h : ∀ d ∈ D, d.name ≠ key ∧ d.letter.toString ≠ key) : getSubset? D (some keys) = none := by
  show (List.mapM (lookup? D) keys).bind DimSet.mk? = none
  rw [mapM_eq_none hk (lookup?_unknown D key h)]; rfl

end Flodym
