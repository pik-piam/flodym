import Flodym.Table
import FlodymProofs.Lemmas.Lookup
import FlodymProofs.Lemmas.AllIdx
import Mathlib.Data.List.Perm.Subperm
import Mathlib.Data.List.Nodup
/-!
# Lemmas for the table tier: index tuples, labels and their positions, the placement stage of the
DataFrame converter
-/
namespace Flodym
open DimSet

theorem length_allIdx : ∀ (shape : List Nat), (allIdx shape).length = shape.prod
  | [] => rfl
  | n :: ns => by
    -- `n` blocks of `(allIdx ns).length` tuples each
    rw [allIdx, List.length_flatMap, List.prod_cons,
      List.map_congr_left fun i _ => by rw [List.length_map, length_allIdx ns],
      List.map_const', List.sum_replicate_nat, List.length_range]

theorem allIdx_nodup : ∀ (shape : List Nat), (allIdx shape).Nodup
  | [] => List.nodup_singleton _
  | n :: ns => by
    rw [allIdx, List.nodup_flatMap]
    refine ⟨fun i _ => (allIdx_nodup ns).map fun a b h => (List.cons.inj h).2, ?_⟩
    -- tuples of different blocks differ in their first index
    refine List.nodup_range.imp_of_mem fun {a b} _ _ hab l h1 h2 => ?_
    obtain ⟨r1, _, rfl⟩ := List.mem_map.mp h1
    obtain ⟨r2, _, h⟩ := List.mem_map.mp h2
    exact hab (List.cons.inj h).1.symm

end Flodym

namespace Flodym.Table
open Flodym DimSet

theorem hasType_of_valid {d : Dim} (hv : d.valid = true) {dt : DType} (hdt : d.dtype = some dt) {it : Item}
    (hit : it ∈ d.items) : it.hasType dt = true := by
  unfold Dim.valid at hv
  rw [hdt, Bool.and_eq_true, List.all_eq_true] at hv
  exact hv.2 it hit

/-! ## Python equality of cells -/

theorem pyEq_ofItem_iff {a b : Item} : (Cell.ofItem a).pyEq (Cell.ofItem b) = true ↔ a = b := by
  cases a <;> cases b <;> simp [Cell.ofItem, Cell.pyEq]

theorem pyEq_symm (a b : Cell) : a.pyEq b = b.pyEq a := by
  cases a <;> cases b <;> simp [Cell.pyEq, eq_comm]

/-- cells equal in Python's sense compare alike with every cell (a number whatever its `isFloat`) -/
theorem pyEq_congr {a b : Cell} (h : a.pyEq b = true) (x : Cell) : x.pyEq a = x.pyEq b := by
  cases a with
  | nan => cases h
  | num q f => cases b with
    | num q' f' => cases beq_iff_eq.mp h; cases x <;> rfl
    | str | nan => cases h
  | str s => cases b with
    | str s' => cases beq_iff_eq.mp h; cases x <;> rfl
    | num | nan => cases h

/-! ## the position of a cell among the items of a dimension -/

theorem itemPos?_ofItem (d : Dim) (hnd : d.items.Nodup) (i : Nat) (hi : i < d.items.length) :
    itemPos? d (Cell.ofItem d.items[i]) = some i := by
  have hfind : (d.items.map Cell.ofItem).findIdx (·.pyEq (Cell.ofItem d.items[i])) = i := by
    rw [List.findIdx_eq (by rwa [List.length_map])]
    refine ⟨by rw [List.getElem_map]; exact pyEq_ofItem_iff.mpr rfl, fun j hj => ?_⟩
    rw [List.getElem_map]
    exact Bool.eq_false_iff.mpr fun h => Nat.ne_of_lt hj (hnd.getElem_inj_iff.mp (pyEq_ofItem_iff.mp h))
  unfold itemPos?
  rw [hfind, if_pos hi]

theorem itemPos?_spec {d : Dim} {c : Cell} {i : Nat} (h : itemPos? d c = some i) :
    ∃ hi : i < d.items.length, (Cell.ofItem d.items[i]).pyEq c = true := by
  obtain ⟨hlt, rfl⟩ := of_ite_eq_some h
  have := List.findIdx_getElem (xs := d.items.map Cell.ofItem) (p := (·.pyEq c)) (w := by rwa [List.length_map])
  rw [List.getElem_map] at this
  exact ⟨hlt, this⟩

theorem itemPos?_eq_none (d : Dim) (c : Cell) (h : ∀ it ∈ d.items, (Cell.ofItem it).pyEq c = false) :
    itemPos? d c = none := by
  have hfind : (d.items.map Cell.ofItem).findIdx (·.pyEq c) = d.items.length := by
    rw [← List.length_map (as := d.items) Cell.ofItem, List.findIdx_eq_length]
    intro x hx
    obtain ⟨it, hit, rfl⟩ := List.mem_map.mp hx
    exact h it hit
  unfold itemPos?
  rw [hfind, if_neg (Nat.lt_irrefl _)]

/-! ## labels and positions -/

theorem itemPos?_congr (d : Dim) {a b : Cell} (h : labelEq a b = true) : itemPos? d a = itemPos? d b := by
  unfold labelEq at h
  rcases Bool.or_eq_true_iff.mp h with h | h
  · unfold itemPos?
    rw [funext (pyEq_congr h)]
  · simp only [Bool.and_eq_true, beq_iff_eq] at h
    rw [h.1, h.2]

theorem positions?_cons_eq (d : Dim) (ds : DimSet) (x : Cell) (xs : List Cell) :
    positions? (d :: ds) (x :: xs) = (itemPos? d x).bind fun i => (positions? ds xs).map (i :: ·) :=
  mapM_cons_eq

theorem positions?_cons {d : Dim} {ds : DimSet} {x : Cell} {xs : List Cell} {idx : List Nat} :
    positions? (d :: ds) (x :: xs) = some idx ↔
      ∃ i is, itemPos? d x = some i ∧ positions? ds xs = some is ∧ idx = i :: is := by
  simp only [positions?_cons_eq, Option.bind_eq_some_iff, Option.map_eq_some_iff, exists_and_left, eq_comm (a := idx)]

theorem labelsEq_cons (x y : Cell) (xs ys : List Cell) :
    labelsEq (x :: xs) (y :: ys) = (labelEq x y && labelsEq xs ys) := by
  show (xs.length + 1 == ys.length + 1 && (labelEq x y && _)) = _
  rw [Bool.and_left_comm]
  congr 2
  exact Bool.eq_iff_iff.mpr (by rw [beq_iff_eq, beq_iff_eq, Nat.add_right_cancel_iff])

theorem positions?_congr (dims : DimSet) {a b : List Cell} (h : labelsEq a b = true) :
    positions? dims a = positions? dims b := by
  induction dims generalizing a b with
  | nil => rfl
  | cons d ds ih =>
    cases a with
    | nil => cases b with
      | nil => rfl
      | cons => cases h
    | cons x xs => cases b with
      | nil => cases h
      | cons y ys =>
        rw [labelsEq_cons, Bool.and_eq_true] at h
        rw [positions?_cons_eq, positions?_cons_eq, itemPos?_congr d h.1, ih h.2]

theorem labelsEq_of_positions {dims : DimSet} {a b : List Cell} {idx : List Nat}
    (ha : a.length = dims.length) (hb : b.length = dims.length)
    (h1 : positions? dims a = some idx) (h2 : positions? dims b = some idx) : labelsEq a b = true := by
  induction dims generalizing a b idx with
  | nil => rw [List.length_eq_zero_iff.mp ha, List.length_eq_zero_iff.mp hb]; rfl
  | cons d ds ih =>
    obtain ⟨x, xs, rfl⟩ := List.exists_cons_of_length_eq_add_one ha
    obtain ⟨y, ys, rfl⟩ := List.exists_cons_of_length_eq_add_one hb
    obtain ⟨i, is, hx, hxs, rfl⟩ := positions?_cons.mp h1
    obtain ⟨_, _, hy, hys, h⟩ := positions?_cons.mp h2
    cases h
    -- both cells equal the `i`-th item
    have hxy : x.pyEq y = true := by
      rw [← pyEq_congr (itemPos?_spec hy).2 x, pyEq_symm]
      exact (itemPos?_spec hx).2
    rw [labelsEq_cons, labelEq, hxy, ih (Nat.succ.inj ha) (Nat.succ.inj hb) hxs hys]
    rfl

theorem hasDuplicates_false_iff {l : List (List Cell)} :
    hasDuplicates l = false ↔ l.Pairwise (fun a b => labelsEq a b = false) := by
  induction l with
  | nil => exact iff_of_true rfl List.Pairwise.nil
  | cons r rs ih =>
    rw [hasDuplicates, Bool.or_eq_false_iff, List.pairwise_cons, ih, List.any_eq_false]
    simp only [Bool.not_eq_true]

theorem positions?_mem_allIdx {dims : DimSet} {a : List Cell} {idx : List Nat} (ha : a.length = dims.length)
    (h : positions? dims a = some idx) : idx ∈ allIdx (shape dims) := by
  induction dims generalizing a idx with
  | nil => cases h; exact mem_allIdx_nil.mpr rfl
  | cons d ds ih =>
    obtain ⟨x, xs, rfl⟩ := List.exists_cons_of_length_eq_add_one ha
    obtain ⟨i, is, hx, hxs, rfl⟩ := positions?_cons.mp h
    exact mem_allIdx_cons.mpr ⟨i, (itemPos?_spec hx).1, is, ih (Nat.succ.inj ha) hxs, rfl⟩

/-! ## the labels `to_df` writes for an index tuple -/

theorem labelsOf_cons (d : Dim) (ds : DimSet) (i : Nat) (r : List Nat) (hi : i < d.items.length) :
    labelsOf (d :: ds) (i :: r) = Cell.ofItem d.items[i] :: labelsOf ds r := by
  rw [List.getElem_eq_getD (h := hi) default]; rfl

theorem labelsOf_length {D : DimSet} {idx : List Nat} (h : idx ∈ allIdx (shape D)) :
    (labelsOf D idx).length = D.length := by
  rw [labelsOf, List.length_map, List.length_zip, ((mem_allIdx _ _).mp h).1, shape, List.length_map, Nat.min_self]

theorem positions?_labelsOf (D : DimSet) (hit : ∀ d ∈ D, d.items.Nodup) (idx : List Nat)
    (h : idx ∈ allIdx (shape D)) : positions? D (labelsOf D idx) = some idx := by
  induction D generalizing idx with
  | nil => cases mem_allIdx_nil.mp h; rfl
  | cons d ds ih =>
    obtain ⟨i, hi, r, hr, rfl⟩ := mem_allIdx_cons.mp h
    rw [labelsOf_cons d ds i r hi]
    exact positions?_cons.mpr ⟨i, r, itemPos?_ofItem d (hit d (List.mem_cons_self ..)) i hi,
      ih (fun d' hd' => hit d' (List.mem_cons_of_mem _ hd')) r hr, rfl⟩

theorem labelsOf_pairwise (D : DimSet) (hit : ∀ d ∈ D, d.items.Nodup) (L : List (List Nat)) (hL : L.Nodup)
    (hmem : ∀ idx ∈ L, idx ∈ allIdx (shape D)) :
    (L.map (labelsOf D)).Pairwise (fun a b => labelsEq a b = false) := by
  rw [List.pairwise_map]
  refine hL.imp_of_mem fun {a b} ha hb hab => Bool.eq_false_iff.mpr fun hle => hab (Option.some.inj ?_)
  rw [← positions?_labelsOf D hit a (hmem a ha), positions?_congr D hle, positions?_labelsOf D hit b (hmem b hb)]

/-! ## the placement -/

theorem placedGet_mem {placed : List (List Nat × Rat)} (hnd : (placed.map (·.1)).Nodup) {idx : List Nat} {v : Rat}
    (h : (idx, v) ∈ placed) : placedGet placed idx = v := by
  unfold placedGet
  rw [find?_unique placed.reverse (idx, v) (List.mem_reverse.mpr h) (beq_self_eq_true idx) fun p hp hpi =>
    inj_of_nodup_map hnd (List.mem_reverse.mp hp) h (beq_iff_eq.mp hpi)]

theorem placedGet_absent {placed : List (List Nat × Rat)} {idx : List Nat} (h : ∀ p ∈ placed, p.1 ≠ idx) :
    placedGet placed idx = 0 := by
  unfold placedGet
  rw [List.find?_eq_none.mpr fun p hp he => h p (List.mem_reverse.mp hp) (beq_iff_eq.mp he)]

theorem placedGet_perm {placed placed' : List (List Nat × Rat)} (hp : placed.Perm placed')
    (hnd : (placed.map (·.1)).Nodup) (idx : List Nat) : placedGet placed idx = placedGet placed' idx := by
  by_cases h : ∃ v, (idx, v) ∈ placed
  · obtain ⟨v, hv⟩ := h
    rw [placedGet_mem hnd hv, placedGet_mem ((hp.map _).nodup_iff.mp hnd) (hp.mem_iff.mp hv)]
  · have habs : ∀ p ∈ placed, p.1 ≠ idx := fun p hp' he => h ⟨p.2, he ▸ hp'⟩
    rw [placedGet_absent habs, placedGet_absent fun p hp' => habs p (hp.mem_iff.mpr hp')]

/-- what a table places: the position of every row whose labels are all known, with the row's value
(zero for an empty one); rows with an unknown label have no position -/
def placed (dims : DimSet) (rows : List (List Cell × Option Rat)) : List (List Nat × Rat) :=
  rows.filterMap fun r => (positions? dims r.1).map fun idx => (idx, r.2.getD 0)

/-! ## rows of a table without duplicated label combinations (one label per dimension in every row) -/

section
variable (dims : DimSet) (rows : List (List Cell × Option Rat)) (hwf : ∀ r ∈ rows, r.1.length = dims.length)
  (hd : hasDuplicates (rows.map (·.1)) = false)
include hwf hd

theorem positions?_nodup : (rows.filterMap fun r => positions? dims r.1).Nodup := by
  have hpw := hasDuplicates_false_iff.mp hd
  rw [List.pairwise_map] at hpw
  refine List.pairwise_filterMap.mpr (hpw.imp_of_mem fun {r r'} hr hr' h idx hp idx' hp' => ?_)
  rintro rfl
  -- two rows at the same position would carry equal labels
  rw [labelsEq_of_positions (hwf r hr) (hwf r' hr') hp hp'] at h
  cases h

theorem placed_nodup : ((placed dims rows).map (·.1)).Nodup := by
  rw [placed, List.map_filterMap]
  simpa only [Option.map_map, Function.comp_def, Option.map_id'] using positions?_nodup dims rows hwf hd

theorem placedGet_row {r : List Cell × Option Rat} (hr : r ∈ rows) {idx : List Nat}
    (hp : positions? dims r.1 = some idx) :
    placedGet (placed dims rows) idx = r.2.getD 0 :=
  placedGet_mem (placed_nodup dims rows hwf hd) (List.mem_filterMap.mpr ⟨r, hr, by rw [hp]; rfl⟩)

end

theorem placedGet_no_row (dims : DimSet) (rows : List (List Cell × Option Rat)) (idx : List Nat)
    (h : ∀ r ∈ rows, positions? dims r.1 ≠ some idx) :
    placedGet (placed dims rows) idx = 0 :=
  placedGet_absent fun p hp hpi => by
    obtain ⟨r, hr, hp'⟩ := List.mem_filterMap.mp hp
    obtain ⟨i, hi, rfl⟩ := Option.map_eq_some_iff.mp hp'
    exact h r hr (hpi ▸ hi)

/-! ## the checks before the placement: when they pass, and what they hand on -/

theorem rowKnown_eq (dims : DimSet) (a : List Cell) : rowKnown dims a = (positions? dims a).isSome :=
  mapM_isSome.symm

/-- the rows handed on are those with known items; without `allow_extra_values` these must be all -/
theorem keepRows?_eq_some {dims : DimSet} {rows kept : List (List Cell × Option Rat)} {e : Bool} :
    keepRows? dims rows e = some kept ↔
      (e = true ∨ ∀ r ∈ rows, rowKnown dims r.1 = true) ∧ (rows.filter fun r => rowKnown dims r.1) = kept := by
  unfold keepRows?
  cases e
  · simp only [Bool.false_eq_true, if_false, List.all_eq_true, false_or]
    by_cases h : ∀ r ∈ rows, rowKnown dims r.1 = true
    · rw [if_pos h, List.filter_eq_self.mpr h, Option.some.injEq]; exact (and_iff_right h).symm
    · rw [if_neg h]; exact iff_of_false nofun fun h' => h h'.1
  · simp only [if_true, Option.some.injEq, true_or, true_and]

/-- empty values become zero; without `allow_missing_values` there must be none, and as many rows
as the array has entries -/
theorem fillRows?_eq_some {dims : DimSet} {rows : List (List Cell × Option Rat)} {m : Bool}
    {filled : List (List Cell × Rat)} :
    fillRows? dims rows m = some filled ↔
      (m = true ∨ (rows.length = (shape dims).prod ∧ ∀ r ∈ rows, r.2 ≠ none)) ∧
      (rows.map fun r => (r.1, r.2.getD 0)) = filled := by
  have key : (∀ r ∈ rows, r.2 ≠ none) →
      rows.mapM (fun r => r.2.map fun v => (r.1, v)) = some (rows.map fun r => (r.1, r.2.getD 0)) :=
    fun h => mapM_eq_some_map fun r hr => by
      obtain ⟨v, hv⟩ := Option.ne_none_iff_exists'.mp (h r hr)
      rw [hv]; rfl
  unfold fillRows?
  cases m
  · rw [if_neg Bool.false_ne_true]
    by_cases hlen : rows.length = (shape dims).prod
    · rw [if_neg fun h => bne_iff_ne.mp h hlen]
      constructor
      · intro h
        have hall : ∀ r ∈ rows, r.2 ≠ none := fun r hr hn => by
          rw [mapM_eq_none hr (congrArg (Option.map _) hn)] at h; cases h
        exact ⟨.inr ⟨hlen, hall⟩, Option.some.inj ((key hall).symm.trans h)⟩
      · rintro ⟨hm, rfl⟩
        exact key (hm.resolve_left Bool.false_ne_true).2
    · rw [if_pos (bne_iff_ne.mpr hlen)]
      exact iff_of_false nofun fun h => hlen (h.1.resolve_left Bool.false_ne_true).1
  · simp only [if_true, Option.some.injEq, true_or, true_and]

/-- what the placement writes, straight from the table's rows: whether the rows with unknown items
were dropped first does not matter, since they have no position anyway -/
theorem placeRows_kept {dims : DimSet} {rows kept : List (List Cell × Option Rat)} {e : Bool}
    (h : keepRows? dims rows e = some kept) :
    placeRows dims (kept.map fun r => (r.1, r.2.getD 0)) = placed dims rows := by
  obtain ⟨_, rfl⟩ := keepRows?_eq_some.mp h
  unfold placeRows placed
  rw [List.filterMap_map, ← List.filterMap_eq_filter, List.filterMap_filterMap]
  refine List.filterMap_congr fun r _ => ?_
  cases h : positions? dims r.1 <;> simp [Option.guard, rowKnown_eq, h]

end Flodym.Table
