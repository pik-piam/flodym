import Flodym.Build
import FlodymProofs.Lemmas.Lookup
/-!
# Lemmas about `Flodym/Build.lean`: the dictionary-building loops of `make_processes` / `make_empty_flows` /
`make_empty_stocks`, what the single steps accept, and the texts the CSV reader takes for numbers
-/

namespace Flodym.Build
open Flodym DimSet

variable {α β γ : Type}

/-! ## dictionaries -/

theorem dictGet?_none {d : List (String × β)} {k : String} (h : ∀ e ∈ d, e.1 ≠ k) : dictGet? d k = none := by
  unfold dictGet?
  rw [List.find?_eq_none.mpr fun e he hk => h e he (beq_iff_eq.mp hk)]
  rfl

theorem dictGet?_append_fresh (d : List (String × β)) (k : String) (v : β) (h : ∀ e ∈ d, e.1 ≠ k) :
    dictGet? (d ++ [(k, v)]) k = some v := by
  have := dictGet?_none h
  unfold dictGet? at this ⊢
  rw [List.find?_append, Option.map_eq_none_iff.mp this]
  simp

theorem dictGet?_mem {d : List (String × β)} (hk : (d.map (·.1)).Nodup) {k : String} {v : β} (h : (k, v) ∈ d) :
    dictGet? d k = some v := by
  unfold dictGet?
  rw [find?_unique d (k, v) h (beq_self_eq_true k) fun e he hek => inj_of_nodup_map hk he h (beq_iff_eq.mp hek)]
  rfl

theorem dictGet?_map (l : List γ) (key : γ → String) (val : γ → β) (hnd : (l.map key).Nodup) (a : γ) (ha : a ∈ l) :
    dictGet? (l.map fun x => (key x, val x)) (key a) = some (val a) :=
  dictGet?_mem (by rw [List.map_map]; exact hnd) (List.mem_map_of_mem (f := fun x => (key x, val x)) ha)

theorem dictPut_fresh {d : List (String × β)} {k : String} {v : β} (h : ∀ e ∈ d, e.1 ≠ k) :
    dictPut d k v = d ++ [(k, v)] :=
  if_neg fun hany => by
    obtain ⟨e, he, hk⟩ := List.any_eq_true.mp hany
    exact h e he (beq_iff_eq.mp hk)

theorem foldl_dictPut (kvs acc : List (String × β)) (hnd : ((acc ++ kvs).map (·.1)).Nodup) :
    kvs.foldl (fun d kv => dictPut d kv.1 kv.2) acc = acc ++ kvs := by
  induction kvs generalizing acc with
  | nil => exact (List.append_nil acc).symm
  | cons kv kvs ih =>
    have hfresh : ∀ e ∈ acc, e.1 ≠ kv.1 := by
      rw [List.map_append, List.nodup_append] at hnd
      exact fun e he => hnd.2.2 e.1 (List.mem_map_of_mem he) kv.1 List.mem_cons_self
    have hnd' : (((acc ++ [kv]) ++ kvs).map (·.1)).Nodup := by rw [List.append_assoc]; exact hnd
    rw [List.foldl_cons, dictPut_fresh hfresh, ih _ hnd', List.append_assoc]
    rfl

/-- the `make_*` loops: every entry is built, or the call refuses; then the entries go in one by one -/
theorem buildDict_eq (l : List α) (f : α → Option (String × β)) :
    buildDict l f = (l.mapM f).map fun kvs => kvs.foldl (fun d kv => dictPut d kv.1 kv.2) [] :=
  foldlM_map_eq _ f l []

theorem buildDict_spec (l : List α) {f : α → Option (String × β)} (g : α → String × β)
    (hf : ∀ a ∈ l, f a = some (g a)) (hnd : (l.map fun a => (g a).1).Nodup) : buildDict l f = some (l.map g) := by
  rw [buildDict_eq, mapM_eq_some_map hf, Option.map_some,
    foldl_dictPut _ [] (by rw [List.nil_append, List.map_map]; exact hnd)]
  rfl

theorem buildDict_none {l : List α} {f : α → Option (String × β)} (a : α) (ha : a ∈ l) (hf : f a = none) :
    buildDict l f = none := by
  rw [buildDict_eq, mapM_eq_none ha hf]; rfl

/-! ## what the single steps accept -/

theorem mkProcess?_eq_some (n : String) (i : Nat) (h : i = 0 → n = Gen.sysenvName) :
    mkProcess? n i = some { name := n, id := i } := by
  unfold mkProcess?
  rw [if_neg]
  simpa using h

theorem mkProcess?_zero (n : String) (h : n ≠ Gen.sysenvName) : mkProcess? n 0 = none := by
  unfold mkProcess?; simp [h]

/-- `processes[name]` finds the listed process; no name, no process (the `match` hypothesis says both in one
statement: nothing named and nothing resolved, or a listed pair) -/
theorem resolveProc?_mem (procs : List (String × ProcessM)) (hk : (procs.map (·.1)).Nodup)
    (o : Option String) (proc : Option ProcessM)
    (h : match o, proc with
         | none, none => True
         | some p, some pr => (p, pr) ∈ procs
         | _, _ => False) : resolveProc? procs o = some proc := by
  cases o <;> cases proc
  · rfl
  · exact h.elim
  · exact h.elim
  · rw [resolveProc?, dictGet?_mem hk h]; rfl

theorem timeChar?_toString (c : Char) : timeChar? c.toString = some c := by
  unfold timeChar?; simp

theorem stockAccepts_nil (sub : DimSet) (tl : Char) : stockAccepts sub tl [] [] = ((letters sub).head? == some tl) := by
  simp [stockAccepts]

theorem MFADef.valid_iff (d : MFADef) : d.valid = true ↔
    ((∀ f ∈ d.flows, lettersOk f.letters = true) ∧ (∀ s ∈ d.stocks, s.valid = true) ∧
      (∀ p ∈ d.params, lettersOk p.letters = true)) ∧
    (∀ f ∈ d.flows, ∀ l ∈ f.letters, l ∈ d.dimLetters) ∧ (∀ s ∈ d.stocks, ∀ l ∈ s.letters, l ∈ d.dimLetters) ∧
    (∀ p ∈ d.params, ∀ l ∈ p.letters, l ∈ d.dimLetters) := by
  simp only [MFADef.valid, Bool.and_eq_true, List.all_eq_true, List.contains_eq_mem, decide_eq_true_eq, and_assoc]

theorem convertCell_hasType {dt : DType} {c : Cell} {it : Item} (h : convertCell dt c = some it) :
    it.hasType dt = true := by
  cases dt <;> cases c <;> simp only [convertCell, Option.map_eq_some_iff, Option.some.injEq] at h
  all_goals first | (subst h; rfl) | (obtain ⟨_, _, rfl⟩ := h; rfl)

/-! ## integer texts -/

theorem digitVal?_dot : digitVal? '.' = none := by decide

theorem natOfDigits?_isSome (cs : List Char) :
    (natOfDigits? cs).isSome = (!cs.isEmpty && cs.all fun c => (digitVal? c).isSome) := by
  unfold natOfDigits?
  cases cs with
  | nil => rfl
  | cons c cs =>
    -- the loop refuses as soon as one character is no digit
    rw [if_neg (by exact Bool.false_ne_true), foldlM_map_eq (fun acc d => acc * 10 + d) digitVal? (c :: cs) 0,
      Option.isSome_map, mapM_isSome]
    rfl

theorem intOfChars?_isSome (cs : List Char) : (intOfChars? cs).isSome = (natOfDigits? (stripDash cs)).isSome := by
  unfold intOfChars? stripDash
  split
  · cases natOfDigits? _ <;> rfl
  · exact Option.isSome_map

end Flodym.Build
