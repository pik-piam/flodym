import FlodymProofs.Lemmas.Arith
/-!
# `cast_to` (einsum reorder → `np.newaxis` index → `np.tile`) and `__pow__` (core Lean only)
-/
namespace Flodym
open DimSet

variable {α : Type}

/-! ## `a[..., np.newaxis, ...]` and `np.tile` on the axes a predicate keeps -/

theorem newaxisShape_filter {β : Type} (T : List β) (p : β → Bool) (len : β → Nat) :
    newaxisShape (T.map p) ((T.filter p).map len) = T.map (fun d => if p d then len d else 1) := by
  induction T with
  | nil => rfl
  | cons d T ih =>
    rw [List.map_cons, List.map_cons, List.filter_cons]
    cases p d with
    | false => exact congrArg (1 :: ·) ih
    | true => exact congrArg (len d :: ·) ih

theorem newaxisSrc_filter {β : Type} (T : List β) (p : β → Bool) (g : β → Nat) :
    newaxisSrc (T.map p) (T.map (fun d => if p d then g d else 0)) = (T.filter p).map g := by
  induction T with
  | nil => rfl
  | cons d T ih =>
    rw [List.map_cons, List.map_cons, List.filter_cons]
    cases p d with
    | false => exact ih
    | true => exact congrArg (g d :: ·) ih

/-- `v[newaxis index].tile(…)` for a value array holding the kept axes `T.filter p`: the full shape,
and every entry read from the kept coordinates -/
theorem newaxis_tile {β : Type} (T : List β) (p : β → Bool) (len : β → Nat) (v : ND α)
    (hv : v.shape = (T.filter p).map len) :
    ((v.newaxisIndex (T.map p)).tile (T.map fun d => if p d then 1 else len d)).shape = T.map len ∧
    ∀ g : β → Nat, (∀ d ∈ T, p d = true → g d < len d) →
      ((v.newaxisIndex (T.map p)).tile (T.map fun d => if p d then 1 else len d)).get (T.map g)
        = v.get ((T.filter p).map g) := by
  have hsh : (v.newaxisIndex (T.map p)).shape = T.map (fun d => if p d then len d else 1) := by
    show newaxisShape (T.map p) v.shape = _
    rw [hv, newaxisShape_filter]
  refine ⟨?_, fun g hg => ?_⟩
  · show List.zipWith (· * ·) (v.newaxisIndex (T.map p)).shape _ = _
    rw [hsh, List.zipWith_map, List.zipWith_self]
    refine List.map_congr_left fun d _ => ?_
    cases p d with
    | false => exact Nat.one_mul _
    | true => exact Nat.mul_one _
  · show v.get (newaxisSrc (T.map p) (List.zipWith _ (T.map g) (v.newaxisIndex (T.map p)).shape)) = _
    -- `tile` reads a kept axis at the index itself (it is below the length) and a new axis, of length 1, at 0
    have hidx : List.zipWith (fun i n => if n = 0 then 0 else i % n) (T.map g)
        (T.map fun d => if p d then len d else 1) = T.map fun d => if p d then g d else 0 := by
      rw [List.zipWith_map, List.zipWith_self]
      refine List.map_congr_left fun d hd => ?_
      cases hp : p d with
      | false => exact Nat.mod_one _
      | true =>
        have hlt := hg d hd hp
        exact (if_neg (Nat.ne_of_gt (Nat.zero_lt_of_lt hlt))).trans (Nat.mod_eq_of_lt hlt)
    rw [hsh, hidx, newaxisSrc_filter]

section
variable [Add α] [OfNat α 0]

/-- `cast_to(target)`: defined when the target holds every dimension of `x`; the result has the
target's dimensions and replicates every entry along the added dimensions (under valid labels only: beyond the length of one of `x`'s own
dimensions `np.tile` wraps around, which the label view of `x` does not — the labels of the added dimensions are
ignored altogether; so this is not a `Yields`) -/
theorem castTo_spec (x : FArr α) (T : DimSet) (hx : WF x) (hT : (letters T).Nodup)
    (hc : Compatible x.dims T) (hsub : ∀ l ∈ x.letters, l ∈ letters T) :
    ∃ r, x.castTo? T = some r ∧ r.dims = T ∧ WF r ∧ ∀ e, Valid T e → r.at e = x.at e := by
  -- the target's dimensions that `x` has, `intersectWith T x.dims`, are `x`'s own (`hc`), so the einsum step
  -- is a `sum_values_to` onto them that sums nothing
  have hKl : letters (intersectWith T x.dims) = (letters T).filter fun l => x.letters.contains l :=
    letters_filter T _
  obtain ⟨v, hv, hvs, hvg⟩ := sumValuesToL_spec x hx _ (intersectWith_sub_right hc.symm)
    (nodup_letters_intersectWith T x.dims hT)
  obtain ⟨hws, hwg⟩ := newaxis_tile T (fun d => x.letters.contains d.letter) (·.len) v hvs
  refine ⟨⟨T, _⟩, ?_, rfl, ⟨hT, hws⟩, fun e hval => ?_⟩
  · rw [hKl] at hv
    unfold FArr.castTo? FArr.castValuesTo?
    rw [all_contains_eq_true.mpr hsub, if_neg (by decide)]
    -- `hv` is the einsum call of `castTo?` only up to unfolding `sumValuesToL?` and the generated subscripts, so it is
    -- put in place by `congrArg`, where `rw` would not find it
    refine (congrArg (Option.bind · _) (congrArg (Option.bind · _) hv)).trans ?_
    rw [letters, List.map_map]
    exact FArr.mk?_eq_some hT hws
  · -- the tiled array at the target's labels is `v` at the kept ones, that is the marginal of `x` that sums nothing
    refine (congrArg _ (List.map_map ..)).trans ((hwg _ fun d hd _ => hval d hd).trans ?_)
    rw [← margin_of_sub x (letters (intersectWith T x.dims)) (fun d hd =>
      hKl ▸ List.mem_filter.mpr ⟨hsub _ (letter_mem hd), List.contains_iff_mem.mpr (letter_mem hd)⟩) e, ← hvg e,
      letters, List.map_map]
    rfl

variable [Mul α] [OfNat α 1]

theorem pow_arr_spec (powf : α → α → α) (x y : FArr α) (hx : WF x) (hy : WF y)
    (hc : Compatible x.dims y.dims) (hsub : ∀ l ∈ y.letters, l ∈ x.letters) :
    ∃ r, FArr.pow? powf x (.arr y) = some r ∧ r.dims = x.dims ∧ WF r ∧
      ∀ e, Valid x.dims e → r.at e = powf (x.at e) (y.at e) := by
  obtain ⟨p, hp1, hp2, hp3, hp4⟩ := castTo_spec y x.dims hy hx.1 hc.symm hsub
  have hshape : x.values.shape = p.values.shape := by rw [hx.2, hp3.2, hp2]
  have hany : y.letters.any (fun l => !(x.letters.contains l)) = false :=
    List.any_eq_false.mpr fun l hl => by rw [not_contains_eq_true_iff]; exact fun h => h (hsub l hl)
  refine ⟨⟨x.dims, ⟨x.values.shape, fun i => powf (x.values.get i) (p.values.get i)⟩⟩, ?_, rfl, ⟨hx.1, hx.2⟩,
    fun e hv => ?_⟩
  · unfold FArr.pow? FArr.prepareOther?
    rw [Option.bind_eq_bind, Option.bind_some, hany, if_neg (by decide), hp1, Option.bind_some,
      ND.zipWith?, if_pos hshape]
    exact FArr.mk?_eq_some hx.1 hx.2
  · show powf (x.at e) (p.values.get ((letters x.dims).map e)) = _
    exact congrArg (powf _) ((congrArg (fun D => p.values.get ((letters D).map e)) hp2.symm).trans (hp4 e hv))

end
end Flodym
