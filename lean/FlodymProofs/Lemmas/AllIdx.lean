import FlodymProofs.Lemmas.Core
/-!
# Index tuples of a shape (`allIdx`): which tuples they are, by position and by label — core Lean only
(how many there are and that none repeats, `length_allIdx` / `allIdx_nodup`, is in `Lemmas/Table.lean`: those two need
Mathlib's `List.prod` and `Nodup` lemmas)
-/
namespace Flodym

theorem mem_allIdx_nil {idx : List Nat} : idx ∈ allIdx [] ↔ idx = [] := List.mem_singleton

theorem mem_allIdx_cons {n : Nat} {ns idx : List Nat} :
    idx ∈ allIdx (n :: ns) ↔ ∃ i, i < n ∧ ∃ r ∈ allIdx ns, i :: r = idx := by
  simp only [allIdx, List.mem_flatMap, List.mem_range, List.mem_map]

theorem mem_allIdx : ∀ (shape idx : List Nat),
    idx ∈ allIdx shape ↔ idx.length = shape.length ∧ ∀ j (h : j < idx.length) (h' : j < shape.length), idx[j] < shape[j]
  | [], idx => mem_allIdx_nil.trans
      ⟨by rintro rfl; exact ⟨rfl, fun _ h => absurd h (Nat.not_lt_zero _)⟩,
       fun h => List.eq_nil_of_length_eq_zero h.1⟩
  | n :: ns, idx => by
    refine mem_allIdx_cons.trans ⟨?_, ?_⟩
    · rintro ⟨i, hi, r, hr, rfl⟩
      obtain ⟨h1, h2⟩ := (mem_allIdx ns r).mp hr
      refine ⟨congrArg (· + 1) h1, fun j h h' => ?_⟩
      cases j with
      | zero => exact hi
      | succ j => exact h2 j (Nat.lt_of_succ_lt_succ h) (Nat.lt_of_succ_lt_succ h')
    · rintro ⟨hlen, hlt⟩
      cases idx with
      | nil => cases hlen
      | cons i r =>
        exact ⟨i, hlt 0 (Nat.zero_lt_succ _) (Nat.zero_lt_succ _), r, (mem_allIdx ns r).mpr ⟨Nat.succ.inj hlen,
          fun j h h' => hlt (j + 1) (Nat.succ_lt_succ h) (Nat.succ_lt_succ h')⟩, rfl⟩

/-- an index tuple of a shape is 0 on every axis of length 1 (what numpy's broadcasting maps it to) -/
theorem clip_allIdx : ∀ (shape idx : List Nat), idx ∈ allIdx shape →
    List.zipWith (fun i s => if s == 1 then 0 else i) idx shape = idx
  | [], idx, h => by cases mem_allIdx_nil.mp h; rfl
  | n :: ns, idx, h => by
    obtain ⟨i, hi, r, hr, rfl⟩ := mem_allIdx_cons.mp h
    rw [List.zipWith_cons_cons, clip_allIdx ns r hr]
    refine congrArg (· :: r) ?_
    split
    · next h1 => exact (Nat.lt_one_iff.mp (eq_of_beq h1 ▸ hi)).symm
    · rfl

open DimSet in
theorem mem_allIdx_shape {D : DimSet} (hnd : (letters D).Nodup) {r : List Nat} :
    r ∈ allIdx (DimSet.shape D) ↔ ∃ e, Valid D e ∧ (letters D).map e = r := by
  induction D generalizing r with
  | nil =>
    exact mem_allIdx_nil.trans
      ⟨fun h => ⟨Env.zero, fun _ hd => (List.not_mem_nil hd).elim, h.symm⟩, fun ⟨_, _, h⟩ => h.symm⟩
  | cons d D ih =>
    obtain ⟨hd, hnd⟩ := List.nodup_cons.mp hnd
    refine mem_allIdx_cons.trans ⟨?_, ?_⟩
    · rintro ⟨i, hi, _, hr, rfl⟩
      obtain ⟨e, hv, rfl⟩ := (ih hnd).mp hr
      -- binding the new letter leaves the others as they were
      have hoff : ∀ c ∈ letters D, (e.set d.letter i) c = e c := fun c hc =>
        Env.set_ne e i fun h => hd (show d.letter ∈ letters D from h ▸ hc)
      refine ⟨e.set d.letter i, List.forall_mem_cons.mpr ⟨?_, fun d' hd' => ?_⟩, ?_⟩
      · exact (Env.set_same e d.letter i).symm ▸ hi
      · exact (hoff _ (List.mem_map_of_mem hd')).symm ▸ hv d' hd'
      · exact congr (congrArg List.cons (Env.set_same e d.letter i)) (List.map_congr_left hoff)
    · rintro ⟨e, hv, rfl⟩
      have hv' := List.forall_mem_cons.mp hv
      exact ⟨e d.letter, hv'.1, _, (ih hnd).mpr ⟨e, hv'.2, rfl⟩, rfl⟩

end Flodym
