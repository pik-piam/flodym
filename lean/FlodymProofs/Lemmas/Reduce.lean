import FlodymProofs.Lemmas.Einsum
import FlodymProofs.Lemmas.Lookup
/-!
# `sum_to`, `sum_over`, `cumsum`, ways of naming a dimension (core Lean only)
-/
namespace Flodym
open DimSet

variable {α : Type}

/-! ## naming a dimension by letter, by name, or by `Dimension` object -/

theorem getDimLetter?_dim (x : FArr α) (d : Dim) : x.getDimLetter? (.dim d) = some d.letter := rfl

theorem getDimLetter?_letter (x : FArr α) (hx : x.letters.Nodup) (hn : NamesOk x.dims) (d : Dim)
    (hd : d ∈ x.dims) : x.getDimLetter? (.str d.letter.toString) = some d.letter :=
  congrArg (Option.map _) (lookup?_letter x.dims hx hn d hd)

theorem getDimLetter?_name (x : FArr α) (hnames : (names x.dims).Nodup) (hn : NamesOk x.dims) (d : Dim)
    (hd : d ∈ x.dims) : x.getDimLetter? (.str d.name) = some d.letter :=
  congrArg (Option.map _) (lookup?_name x.dims hnames hn d hd)

theorem getDimLetter?_unknown (x : FArr α) (key : String)
    (h : ∀ d ∈ x.dims, d.name ≠ key ∧ d.letter.toString ≠ key) :
    x.getDimLetter? (.str key) = none :=
  congrArg (Option.map _) (lookup?_unknown x.dims key h)

/-- a key for dimension `d`: its letter, its name, or the object itself -/
inductive KeyFor (d : Dim) : FArr.DimKey → Prop where
  | letter : KeyFor d (.str d.letter.toString)
  | name : KeyFor d (.str d.name)
  | obj : KeyFor d (.dim d)

/-- `ks` names the dimensions `ds`, one key per dimension, each in any of the three forms -/
inductive KeysFor : List Dim → List FArr.DimKey → Prop where
  | nil : KeysFor [] []
  | cons {d k ds ks} : KeyFor d k → KeysFor ds ks → KeysFor (d :: ds) (k :: ks)

/-- all three naming forms resolve to the dimension's letter, in any mixture -/
theorem tupleToLetters?_forms (x : FArr α) (hx : x.letters.Nodup) (hnames : (names x.dims).Nodup)
    (hn : NamesOk x.dims) (ds : List Dim) (hds : ∀ d ∈ ds, d ∈ x.dims) (ks : List FArr.DimKey)
    (hks : KeysFor ds ks) :
    x.tupleToLetters? ks = some (letters ds) := by
  unfold FArr.tupleToLetters?
  induction hks with
  | nil => rfl
  | @cons d k ds ks hk _ ih =>
    have hd := hds d List.mem_cons_self
    have hk' : x.getDimLetter? k = some d.letter := by
      cases hk with
      | letter => exact getDimLetter?_letter x hx hn d hd
      | name => exact getDimLetter?_name x hnames hn d hd
      | obj => exact getDimLetter?_dim x d
    rw [List.mapM_cons, hk', ih fun d' hd' => hds d' (List.mem_cons_of_mem _ hd')]; rfl

theorem tupleToLetters?_unknown (x : FArr α) (ks : List FArr.DimKey) (key : String) (hk : .str key ∈ ks)
    (h : ∀ d ∈ x.dims, d.name ≠ key ∧ d.letter.toString ≠ key) :
    x.tupleToLetters? ks = none :=
  mapM_eq_none hk (getDimLetter?_unknown x key h)

theorem tupleToLetters?_letters (x : FArr α) (hx : x.letters.Nodup) (hn : NamesOk x.dims)
    (so : List Dim) (hso : ∀ d ∈ so, d ∈ x.dims) :
    x.tupleToLetters? ((letters so).map fun l => .str l.toString) = some (letters so) := by
  unfold FArr.tupleToLetters?
  rw [letters, List.map_map, List.mapM_map]
  exact mapM_eq_some_map fun d hd => getDimLetter?_letter x hx hn d (hso d hd)

section
variable [Add α] [OfNat α 0]

/-- what `sum_to` and `sum_over` do once their keys are resolved to the letters of `ds`: the
dimensions `ds` in that order, marginal sums by label -/
theorem sumToL_spec (x : FArr α) (hx : WF x) (hn : NamesOk x.dims) (ds : List Dim)
    (hds : ∀ d ∈ ds, d ∈ x.dims) (hnd : (letters ds).Nodup) :
    Yields ((getSubset? x.dims (some ((letters ds).map (·.toString)))).bind fun dims =>
      (x.sumValuesToL? (letters ds)).bind fun v => FArr.mk? dims v) ds (margin x (letters ds)) := by
  obtain ⟨v, hv, hs, hg⟩ := sumValuesToL_spec x hx ds hds hnd
  rw [getSubset?_letters x.dims hx.1 hn ds hds hnd, hv]
  exact (Yields.mk hnd hs).congr hg

/-- `sum_to(requested)`: the requested dimensions in the requested order, marginal sums by label -/
theorem sumTo_spec (x : FArr α) (hx : WF x) (hn : NamesOk x.dims) (ds : List Dim)
    (hds : ∀ d ∈ ds, d ∈ x.dims) (hnd : (letters ds).Nodup) (ks : List FArr.DimKey)
    (hks : x.tupleToLetters? ks = some (letters ds)) :
    Yields (x.sumTo? ks) ds (margin x (letters ds)) := by
  unfold FArr.sumTo?
  rw [hks]
  exact sumToL_spec x hx hn ds hds hnd

/-- `sum_over(summed)`: the remaining dimensions in x's order -/
theorem sumOver?_spec (x : FArr α) (hx : WF x) (hn : NamesOk x.dims) (so : List Dim)
    (hso : ∀ d ∈ so, d ∈ x.dims) (ks : List FArr.DimKey)
    (hks : x.tupleToLetters? ks = some (letters so)) :
    Yields (x.sumOver? ks) (x.dims.filter fun d => !((letters so).contains d.letter))
      (margin x (letters (x.dims.filter fun d => !((letters so).contains d.letter)))) := by
  have hresl := letters_filter x.dims (fun l => !((letters so).contains l))
  unfold FArr.sumOver?
  -- the letters are resolved a second time inside `sum_values_over`
  simp only [Option.bind_eq_bind, hks, Option.bind_some, tupleToLetters?_letters x hx.1 hn so hso]
  rw [show x.letters.filter _ = _ from hresl.symm]
  exact sumToL_spec x hx hn _ (fun d hd => (List.mem_filter.mp hd).1) (nodup_letters_filter hx.1)

/-- `cumsum(letter)`: accumulates along that dimension in item order, nothing else moves -/
theorem cumsum_spec (x : FArr α) (hx : WF x) (l : Char) (hl : l ∈ x.letters) :
    Yields (x.cumsum? l) x.dims fun e => sumRange (e l + 1) (fun i => x.at (e.set l i)) := by
  have hi : x.letters.idxOf l < x.letters.length := List.idxOf_lt_length_of_mem hl
  rw [show x.cumsum? l = FArr.mk? x.dims (x.values.cumsum (x.letters.idxOf l)) from if_pos hi]
  refine Yields.congr (Yields.mk hx.1 hx.2) fun e => ?_
  show sumRange (((x.letters.map e).getD (x.letters.idxOf l) 0) + 1)
      (fun i => x.values.get ((x.letters.map e).set (x.letters.idxOf l) i)) = _
  have hget : (x.letters.map e).getD (x.letters.idxOf l) 0 = e l := by
    rw [List.getD_eq_getElem?_getD, List.getElem?_map, List.getElem?_eq_getElem hi]
    exact congrArg e (List.getElem_idxOf hi)
  rw [hget]
  exact sumRange_congr fun i _ => congrArg x.values.get (map_set_idxOf hx.1 l e i)

end
end Flodym
