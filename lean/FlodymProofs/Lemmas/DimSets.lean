import FlodymProofs.Lemmas.Core
/-!
# Dimension lists: their letters, distinct letters, dimensions from one common set, intersection and union
(core Lean only)
-/
namespace Flodym
open DimSet

/-! ## letters -/

theorem letters_filter (D : DimSet) (p : Char → Bool) :
    letters (D.filter (fun d => p d.letter)) = (letters D).filter p :=
  List.filter_map.symm

theorem mem_letters {D : DimSet} {c : Char} : c ∈ letters D ↔ ∃ d ∈ D, d.letter = c :=
  List.mem_map

theorem letter_mem {D : DimSet} {d : Dim} (h : d ∈ D) : d.letter ∈ letters D :=
  List.mem_map_of_mem h

theorem letters_sub {D D' : DimSet} (h : ∀ d ∈ D, d ∈ D') : ∀ l ∈ letters D, l ∈ letters D' :=
  fun _ hl => List.map_subset _ h hl

theorem filter_notin_eq_nil {D : DimSet} {L : List Char} (h : ∀ d ∈ D, d.letter ∈ L) :
    D.filter (fun d => !(L.contains d.letter)) = [] :=
  List.filter_eq_nil_iff.mpr fun d hd hn => not_contains_eq_true_iff.mp hn (h d hd)

theorem filter_notin_eq_self {D : DimSet} {L : List Char} (h : ∀ d ∈ D, d.letter ∉ L) :
    D.filter (fun d => !(L.contains d.letter)) = D :=
  List.filter_eq_self.mpr fun d hd => not_contains_eq_true_iff.mpr (h d hd)

theorem letters_diff (D D' : DimSet) :
    letters (differenceWith D D') = (letters D).filter (fun l => !((letters D').contains l)) :=
  letters_filter D (fun l => !((letters D').contains l))

theorem mem_letters_perm {D D' : DimSet} (h : D'.Perm D) (c : Char) : c ∈ letters D' ↔ c ∈ letters D :=
  (h.map (·.letter)).mem_iff

theorem checkAdditional_iff {D : DimSet} {d : Dim} :
    checkAdditional D d = true ↔ d.letter ∉ letters D :=
  not_contains_eq_true_iff

/-! ## distinct letters -/

theorem nodup_letters_filter {D : DimSet} (h : (letters D).Nodup) {p : Dim → Bool} :
    (letters (D.filter p)).Nodup :=
  (List.filter_sublist.map _).nodup h

theorem DimSet.mk?_yields_nodup {ds : List Dim} : ∀ r, DimSet.mk? ds = some r → (letters r).Nodup := by
  intro r h
  obtain ⟨hnd, rfl⟩ := of_ite_eq_some h
  exact hnd

theorem nodup_letters_append {D A : DimSet} :
    (letters (D ++ A)).Nodup ↔
      (letters D).Nodup ∧ (letters A).Nodup ∧ ∀ a ∈ A, a.letter ∉ letters D := by
  rw [letters, List.map_append, List.nodup_append]
  refine and_congr_right fun _ => and_congr_right fun _ => ⟨fun h a ha hm => h _ hm _ (letter_mem ha) rfl, ?_⟩
  rintro h l hl _ hb rfl
  obtain ⟨a, ha, rfl⟩ := mem_letters.mp hb
  exact h a ha hl

theorem nodup_letters_insertIdx {D : DimSet} {n : Nat} {d : Dim} (h : (letters D).Nodup)
    (hd : d.letter ∉ letters D) : (letters (D.insertIdx n d)).Nodup := by
  by_cases hn : n ≤ D.length
  · have : (letters (D.insertIdx n d)).Perm (letters (d :: D)) := (List.perm_insertIdx d D hn).map _
    exact this.nodup_iff.mpr (List.nodup_cons.mpr ⟨hd, h⟩)
  · rw [List.insertIdx_of_length_lt (Nat.lt_of_not_le hn)]; exact h

/-! ## dimensions from one common set -/

theorem compatible_self {D : DimSet} (h : (letters D).Nodup) : Compatible D D :=
  fun _ hd _ hd' hl => inj_of_nodup_map h hd hd' hl

theorem Compatible.symm {D D' : DimSet} (h : Compatible D D') : Compatible D' D :=
  fun d hd d' hd' hl => (h d' hd' d hd hl.symm).symm

theorem compatible_of_sub {D D' : DimSet} (hD : (letters D).Nodup) (h : ∀ d ∈ D', d ∈ D) :
    Compatible D D' :=
  fun _ hd d' hd' hl => inj_of_nodup_map hD hd (h d' hd') hl

theorem compatible_of_perm {D1 D1' D2 D2' : DimSet} (h1 : D1'.Perm D1) (h2 : D2'.Perm D2)
    (hc : Compatible D1 D2) : Compatible D1' D2' :=
  fun d hd d' hd' hl => hc d (h1.mem_iff.mp hd) d' (h2.mem_iff.mp hd') hl

/-! ## intersection -/

theorem intersectWith_sub_left {D D' : DimSet} : ∀ d ∈ intersectWith D D', d ∈ D :=
  fun _ hd => (List.mem_filter.mp hd).1

theorem intersectWith_sub_right {D D' : DimSet} (hc : Compatible D D') :
    ∀ d ∈ intersectWith D D', d ∈ D' := by
  intro d hd
  obtain ⟨hdD, hl⟩ := List.mem_filter.mp hd
  obtain ⟨d', hd', hl'⟩ := mem_letters.mp (List.contains_iff_mem.mp hl)
  rw [hc d hdD d' hd' hl'.symm]; exact hd'

theorem nodup_letters_intersectWith (D D' : DimSet) (h : (letters D).Nodup) :
    (letters (intersectWith D D')).Nodup :=
  nodup_letters_filter h

theorem intersectWith_self (D : DimSet) : intersectWith D D = D :=
  List.filter_eq_self.mpr fun _ hd => List.contains_iff_mem.mpr (letter_mem hd)

theorem intersectWith_perm {D1 D1' D2 D2' : DimSet} (h1 : D1'.Perm D1) (h2 : D2'.Perm D2) :
    (intersectWith D1' D2').Perm (intersectWith D1 D2) := by
  unfold intersectWith
  rw [List.filter_congr fun d _ =>
    show (letters D2').contains d.letter = (letters D2).contains d.letter from (h2.map _).contains_eq]
  exact h1.filter _

/-! ## union

`unionDims D D'`: `D`, then the dimensions of `D'` whose letter `D` lacks — the dimensions of `x * y`. -/

def unionDims (D D' : DimSet) : DimSet := D ++ D'.filter (fun d => !((letters D).contains d.letter))

theorem letters_union (D D' : DimSet) :
    letters (unionDims D D') = letters D ++ (letters D').filter (fun l => !((letters D).contains l)) := by
  rw [← letters_filter D' (fun l => !((letters D).contains l))]
  exact List.map_append

theorem nodup_letters_union {D D' : DimSet} (h : (letters D).Nodup) (h' : (letters D').Nodup) :
    (letters (unionDims D D')).Nodup :=
  nodup_letters_append.mpr ⟨h, nodup_letters_filter h', fun _ ha =>
    not_contains_eq_true_iff.mp (List.mem_filter.mp ha).2⟩

theorem unionWith?_eq {D D' : DimSet} (h : (letters D).Nodup) (h' : (letters D').Nodup) :
    unionWith? D D' = some (unionDims D D') := by
  have hall : (D'.filter (fun d => !((letters D).contains d.letter))).all
      (fun d => !((letters D).contains d.letter)) = true :=
    List.all_eq_true.mpr fun d hd => (List.mem_filter.mp hd).2
  have hnd := nodup_letters_union h h'
  unfold unionDims at hnd ⊢
  unfold unionWith? expandBy? DimSet.mk?
  rw [hall, if_pos rfl, if_pos hnd]

theorem mem_letters_union {D D' : DimSet} {c : Char} :
    c ∈ letters (unionDims D D') ↔ c ∈ letters D ∨ c ∈ letters D' := by
  rw [letters_union, List.mem_append, List.mem_filter, not_contains_eq_true_iff]
  exact ⟨fun h => h.imp id And.left,
    fun h => (Decidable.em (c ∈ letters D)).imp id fun hn => ⟨h.resolve_left hn, hn⟩⟩

theorem unionDims_of_sub {D D' : DimSet} (h : ∀ d ∈ D', d.letter ∈ letters D) : unionDims D D' = D := by
  rw [unionDims, filter_notin_eq_nil h, List.append_nil]

theorem unionDims_self (D : DimSet) : unionDims D D = D :=
  unionDims_of_sub fun _ => letter_mem

end Flodym
