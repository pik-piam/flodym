import FlodymProofs.Lemmas.Totals
import Mathlib.Algebra.Field.Basic
/-!
# `get_shares_over`
-/
namespace Flodym
open DimSet

variable {α : Type}

section field
variable [Field α]

/-- `get_shares_over(ls)` when `ls` does not cover all dimensions: x divided by its total over
`ls`, matched by label -/
theorem shares_partial_spec (x : FArr α) (hx : WF x) (hn : NamesOk x.dims) (so : DimSet)
    (hso : ∀ d ∈ so, d ∈ x.dims)
    (hnotall : x.letters.all (fun l => (letters so).contains l) = false) :
    Yields (x.getSharesOver? (letters so)) x.dims fun e =>
      x.at e * (1 / margin x (x.letters.filter (fun l => !((letters so).contains l))) e) := by
  have hall : (letters so).all (fun l => x.letters.contains l) = true :=
    all_contains_eq_true.mpr (letters_sub hso)
  unfold FArr.getSharesOver?
  simp only [hall, Bool.not_true, Bool.false_eq_true, if_false, hnotall]
  refine (sumOver?_spec x hx hn so hso _ (tupleToLetters?_letters x hx.1 hn so hso)).bind
    fun t htd htwf htat => ?_
  have htsub : ∀ d ∈ t.dims, d ∈ x.dims := htd ▸ fun d hd => (List.mem_filter.mp hd).1
  refine ((div_arr_spec x t hx htwf (compatible_of_sub hx.1 htsub)).dims_eq
    (unionDims_of_sub fun d hd => letter_mem (htsub d hd))).congr fun e => ?_
  rw [htat e, letters_filter x.dims fun l => !((letters so).contains l)]
  rfl

/-- `get_shares_over(ls)` when `ls` covers all dimensions: x divided by its grand total, the
marginal that keeps nothing -/
theorem shares_all_spec (x : FArr α) (hx : WF x) (ls : List Char)
    (hsub : ls.all (fun l => x.letters.contains l) = true)
    (hall : x.letters.all (fun l => ls.contains l) = true) :
    Yields (x.getSharesOver? ls) x.dims fun e => x.at e * (1 / margin x [] e) := by
  unfold FArr.getSharesOver?
  simp only [hsub, Bool.not_true, Bool.false_eq_true, if_false, hall, if_true]
  exact (div_num_spec x hx x.sumValues).congr fun e => by
    rw [mul_one, sumValues_eq_total x hx e, total_eq_margin]

/-- shares add up to one over the summed dimensions wherever the total is non-zero -/
theorem shares_sum_one (x r : FArr α) (keep : List Char)
    (hrat : ∀ e, r.at e = x.at e * (1 / margin x keep e)) (e : Env)
    (hne : margin x keep e ≠ 0) :
    sumOver (summedOf x.dims keep) r.at e = 1 := by
  have h1 : sumOver (summedOf x.dims keep) r.at e
      = sumOver (summedOf x.dims keep) (fun e' => x.at e' * (1 / margin x keep e)) e := by
    apply sumOver_congr_inside
    intro e' hoff _
    rw [hrat e', margin_env_congr x keep e e' fun c _ hk =>
      (hoff c fun h => (mem_summedOf_fst.mp h).2 hk).symm]
  rw [h1, sumOver_mul_right]
  show margin x keep e * (1 / margin x keep e) = 1
  rw [mul_one_div, div_self hne]

/-- what dividing by a marginal total gives where that total is non-zero: the quotient, which
multiplied back restores the entry, and shares that add up to one -/
theorem shares_of_ratio (x r : FArr α) (keep : List Char)
    (hrat : ∀ e, r.at e = x.at e * (1 / margin x keep e)) (e : Env) (hne : margin x keep e ≠ 0) :
    r.at e = x.at e / margin x keep e ∧ r.at e * margin x keep e = x.at e ∧
      sumOver (summedOf x.dims keep) r.at e = 1 := by
  refine ⟨?_, ?_, shares_sum_one x r keep hrat e hne⟩
  · rw [hrat e, mul_one_div]
  · rw [hrat e, mul_one_div, div_mul_cancel₀ _ hne]

end field
end Flodym
