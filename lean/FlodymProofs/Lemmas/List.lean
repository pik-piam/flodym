/-!
# Facts about lists and `Option` that the model-specific lemmas share

No import: most lemma files build without Mathlib (they load in a fraction of the time, and `decide +kernel` on
`Rat` works in them), so a few facts Mathlib has (`List.inj_on_of_nodup_map`, `List.Nodup.of_map`) are proved here
(`inj_of_nodup_map`, `nodup_of_nodup_map`).
-/
namespace Flodym

variable {α β : Type}

theorem inj_of_nodup_map {f : α → β} {l : List α} (h : (l.map f).Nodup) {a b : α}
    (ha : a ∈ l) (hb : b ∈ l) (hab : f a = f b) : a = b := by
  induction l with
  | nil => cases ha
  | cons c l ih =>
    rw [List.map_cons, List.nodup_cons] at h
    cases ha with
    | head => cases hb with
      | head => rfl
      | tail _ hb => exact absurd (hab ▸ List.mem_map_of_mem hb) h.1
    | tail _ ha => cases hb with
      | head => exact absurd (hab ▸ List.mem_map_of_mem ha) h.1
      | tail _ hb => exact ih h.2 ha hb

theorem nodup_of_nodup_map {f : α → β} {l : List α} (h : (l.map f).Nodup) : l.Nodup :=
  (List.pairwise_map.mp h).imp fun hne e => hne (congrArg f e)

theorem find?_unique (L : List α) {p : α → Bool} (d : α) (hd : d ∈ L) (hp : p d = true)
    (hu : ∀ d' ∈ L, p d' = true → d' = d) : L.find? p = some d := by
  induction L with
  | nil => cases hd
  | cons a L ih =>
    by_cases ha : p a = true
    · rw [List.find?_cons_of_pos ha, hu a (by simp) ha]
    · rw [List.find?_cons_of_neg ha]
      cases hd with
      | head => exact absurd hp ha
      | tail _ h => exact ih h fun d' hd' => hu d' (by simp [hd'])

theorem nodup_set_fresh {l : List α} (h : l.Nodup) (i : Nat) {c : α} (hc : c ∉ l) : (l.set i c).Nodup := by
  induction l generalizing i with
  | nil => exact h
  | cons a l ih =>
    rw [List.nodup_cons] at h
    cases i with
    | zero => exact List.nodup_cons.mpr ⟨fun hm => hc (by simp [hm]), h.2⟩
    | succ i =>
      refine List.nodup_cons.mpr ⟨fun hm => ?_, ih h.2 i fun hm => hc (by simp [hm])⟩
      rcases List.mem_or_eq_of_mem_set hm with h1 | h1
      · exact h.1 h1
      · exact hc (by simp [h1])

theorem filter_range_unique {n : Nat} {p : Nat → Bool} (j : Nat) (hj : j < n) (hp : p j = true)
    (hu : ∀ i, i < n → p i = true → i = j) : (List.range n).filter p = [j] := by
  have hnd : ((List.range n).filter p).Nodup := List.nodup_range.filter _
  have hmem : j ∈ (List.range n).filter p := List.mem_filter.mpr ⟨List.mem_range.mpr hj, hp⟩
  have hall : ∀ i ∈ (List.range n).filter p, i = j := by
    intro i hi
    obtain ⟨h1, h2⟩ := List.mem_filter.mp hi
    exact hu i (List.mem_range.mp h1) h2
  generalize (List.range n).filter p = L at hnd hmem hall
  cases L with
  | nil => cases hmem
  | cons x xs =>
    have hx := hall x (by simp)
    subst hx
    cases xs with
    | nil => rfl
    | cons y ys =>
      have hy := hall y (by simp)
      subst hy
      simp at hnd

theorem map_range_getD (row tail : List β) (d : β) :
    (List.range row.length).map (fun j => (row ++ tail).getD j d) = row := by
  refine List.ext_getElem (by rw [List.length_map, List.length_range]) fun j h1 h2 => ?_
  rw [List.getElem_map, List.getElem_range, List.getD_eq_getElem?_getD, List.getElem?_append_left h2,
    List.getElem?_eq_getElem h2, Option.getD_some]

theorem takeWhile_dropWhile_of_all {p : α → Bool} {l : List α} (h : ∀ a ∈ l, p a = true) :
    l.takeWhile p = l ∧ l.dropWhile p = [] := by
  have h1 := List.takeWhile_append_of_pos (l₂ := []) h
  have h2 := List.dropWhile_append_of_pos (l₂ := []) h
  rw [List.append_nil] at h1 h2
  exact ⟨h1.trans (List.append_nil l), h2⟩

theorem of_ite_eq_some {c : Prop} [Decidable c] {a b : α}
    (h : (if c then some a else none) = some b) : c ∧ a = b :=
  (Option.ite_none_right_eq_some.mp h).imp_right Option.some.inj

theorem not_contains_eq_true_iff [BEq α] [LawfulBEq α] {l : List α} {a : α} :
    (!l.contains a) = true ↔ a ∉ l := by
  rw [Bool.not_eq_true', ← Bool.not_eq_true, List.contains_iff_mem]

theorem all_contains_eq_true [BEq α] [LawfulBEq α] {l L : List α} :
    l.all (fun a => L.contains a) = true ↔ ∀ a ∈ l, a ∈ L := by
  simp only [List.all_eq_true, List.contains_iff_mem]

theorem all_contains_eq_false [BEq α] [LawfulBEq α] {l L : List α} :
    l.all (fun a => L.contains a) = false ↔ ∃ a ∈ l, a ∉ L := by
  simp only [List.all_eq_false, List.contains_iff_mem]

/-! ## `mapM` into `Option`: the whole list maps, or one element refuses -/

section mapM
variable {f : α → Option β}

theorem mapM_singleton {x : α} : [x].mapM f = (f x).bind fun y => some [y] := rfl

theorem mapM_cons_eq {a : α} {l : List α} :
    (a :: l).mapM f = (f a).bind fun b => (l.mapM f).map (b :: ·) := by
  rw [List.mapM_cons]
  cases f a <;> cases l.mapM f <;> rfl

theorem mapM_eq_some_iff {l : List α} : ∀ {r : List β}, l.mapM f = some r ↔ l.map f = r.map some := by
  induction l with
  | nil => intro r; cases r <;> simp
  | cons a l ih =>
    intro r
    rw [mapM_cons_eq]
    cases r with
    | nil => cases f a <;> cases l.mapM f <;> simp
    | cons b r =>
      rw [List.map_cons, List.map_cons, List.cons.injEq, ← ih]
      cases f a <;> cases l.mapM f <;> simp

theorem mapM_isSome {l : List α} :
    (l.mapM f).isSome = l.all fun a => (f a).isSome := by
  induction l with
  | nil => rfl
  | cons a as ih =>
    rw [List.mapM_cons, List.all_cons, ← ih]
    cases f a <;> cases as.mapM f <;> rfl

theorem mapM_eq_none_iff {l : List α} : l.mapM f = none ↔ ∃ a ∈ l, f a = none := by
  rw [← Option.not_isSome_iff_eq_none, Bool.not_eq_true, mapM_isSome, List.all_eq_false]
  exact exists_congr fun a => and_congr_right fun _ => Option.not_isSome_iff_eq_none

theorem mapM_eq_none {l : List α} {a : α} (ha : a ∈ l) (h : f a = none) : l.mapM f = none :=
  mapM_eq_none_iff.mpr ⟨a, ha, h⟩

theorem mapM_eq_some_map {l : List α} {g : α → β} (h : ∀ a ∈ l, f a = some (g a)) : l.mapM f = some (l.map g) :=
  mapM_eq_some_iff.mpr (by rw [List.map_map]; exact List.map_congr_left h)

theorem length_of_mapM {l : List α} {r : List β} (h : l.mapM f = some r) : r.length = l.length := by
  simpa using (congrArg List.length (mapM_eq_some_iff.mp h)).symm

theorem mem_of_mapM {l : List α} {r : List β} (h : l.mapM f = some r) {b : β} (hb : b ∈ r) : ∃ a ∈ l, f a = some b := by
  have : some b ∈ l.map f := mapM_eq_some_iff.mp h ▸ List.mem_map_of_mem hb
  exact List.mem_map.mp this

theorem map_of_mapM {g : β → α} (hg : ∀ a b, f a = some b → g b = a) :
    ∀ {l : List α} {r : List β}, l.mapM f = some r → r.map g = l
  | [], r, h => by cases h; rfl
  | a :: l, r, h => by
    rw [mapM_cons_eq] at h
    obtain ⟨b, hb, h⟩ := Option.bind_eq_some_iff.mp h
    obtain ⟨r', hr', rfl⟩ := Option.map_eq_some_iff.mp h
    exact congr (congrArg List.cons (hg a b hb)) (map_of_mapM hg hr')

/-- a loop that refuses as soon as one element does: all elements are mapped first, then folded -/
theorem foldlM_map_eq {σ : Type} (step : σ → β → σ) (f : α → Option β) (l : List α) :
    ∀ s : σ, l.foldlM (fun s a => (f a).map (step s)) s = (l.mapM f).map fun bs => bs.foldl step s := by
  induction l with
  | nil => intro s; rfl
  | cons a l ih =>
    intro s
    rw [List.foldlM_cons, mapM_cons_eq]
    cases f a with
    | none => rfl
    | some b => rw [Option.map_some, Option.bind_eq_bind, Option.bind_some, ih]; cases l.mapM f <;> rfl

theorem mapM_eq_some_of_getElem {l : List α} {r : List β} (hlen : r.length = l.length)
    (h : ∀ j (hj : j < l.length), f l[j] = some (r[j]'(hlen ▸ hj))) : l.mapM f = some r :=
  mapM_eq_some_iff.mpr <| List.ext_getElem (by rw [List.length_map, List.length_map, hlen]) fun j h1 _ => by
    rw [List.getElem_map, List.getElem_map, h j (by simpa using h1)]

end mapM

/-! ## folds in `Option` -/

theorem foldlM_eq_none {σ : Type} (f : σ → α → Option σ) (a : α) (hf : ∀ s, f s a = none) :
    ∀ (l : List α), a ∈ l → ∀ s, l.foldlM f s = none
  | b :: l, hmem, s => by
    rw [List.foldlM_cons]
    rcases List.mem_cons.mp hmem with rfl | h
    · rw [hf]; rfl
    · cases f s b with
      | none => rfl
      | some s' => exact foldlM_eq_none f a hf l h s'

theorem foldlM_fixed {σ : Type} {f : σ → α → Option σ} {s : σ} :
    ∀ (l : List α), (∀ a ∈ l, f s a = some s) → l.foldlM f s = some s
  | [], _ => rfl
  | a :: l, h => by
    rw [List.foldlM_cons, h a (List.mem_cons_self ..)]
    exact foldlM_fixed l fun b hb => h b (List.mem_cons_of_mem _ hb)

/-! ## "whatever this call returns satisfies `P`", pushed through the shape of a `do` block

One `bind_yields` per `←` of the model function, `ite_yields` per `if`, `none_yields` where it raises;
the leaves are the facts about the calls that return (`FArr.mk?_yields_wf` …). Weaker than `Yields` of
`Lemmas/Core`, which also says that the call returns, and what. -/

variable {γ : Type}

theorem bind_yields {P : γ → Prop} {o : Option β} {f : β → Option γ}
    (hf : ∀ b r, f b = some r → P r) : ∀ r, o.bind f = some r → P r := by
  intro r h
  obtain ⟨b, _, hb⟩ := Option.bind_eq_some_iff.mp h
  exact hf b r hb

theorem ite_yields {P : γ → Prop} {c : Prop} [Decidable c] {a b : Option γ}
    (ha : ∀ r, a = some r → P r) (hb : ∀ r, b = some r → P r) :
    ∀ r, (if c then a else b) = some r → P r := by
  split
  · exact ha
  · exact hb

theorem none_yields {P : γ → Prop} : ∀ r, (none : Option γ) = some r → P r := nofun

end Flodym
