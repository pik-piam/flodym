import FlodymProofs.Lemmas.Core
import Mathlib.Algebra.BigOperators.Group.Finset.Basic
import Mathlib.Algebra.BigOperators.Ring.Finset
import Mathlib.Algebra.BigOperators.Group.Finset.Sigma
import Mathlib.Data.List.Perm.Basic
import Mathlib.Data.List.Nodup
/-!
# Nested label sums as `Finset` sums: reordering, splitting, linearity
-/
open Finset BigOperators
namespace Flodym

variable {α : Type}

section monoid
variable [AddCommMonoid α]

/-- the model's fold coincides with the `Finset` sum (which unfolds to the sum of that list) -/
theorem sumRange_eq (n : Nat) (f : Nat → α) : sumRange n f = ∑ i ∈ range n, f i :=
  sumRange_eq_foldr_map n f

theorem sumOver_swap (l1 l2 : Char) (n1 n2 : Nat) (ls : List (Char × Nat)) (f : Env → α) (e : Env)
    (h : l1 ≠ l2) :
    sumOver ((l1, n1) :: (l2, n2) :: ls) f e = sumOver ((l2, n2) :: (l1, n1) :: ls) f e := by
  simp only [sumOver, sumRange_eq, Env.set_comm e h]
  exact Finset.sum_comm

theorem sumOver_perm {ls ls' : List (Char × Nat)} (hp : ls.Perm ls') (f : Env → α)
    (hnd : (ls.map Prod.fst).Nodup) : ∀ e, sumOver ls f e = sumOver ls' f e := by
  induction hp with
  | nil => exact fun _ => rfl
  | cons x hp ih =>
    exact fun e => sumRange_congr fun i _ => ih (List.nodup_cons.mp hnd).2 _
  | swap x y l =>
    exact fun e => sumOver_swap _ _ _ _ _ _ _ fun h =>
      (List.nodup_cons.mp hnd).1 (List.mem_cons.mpr (.inl h))
  | trans h1 h2 ih1 ih2 =>
    exact fun e => (ih1 hnd e).trans (ih2 ((h1.map Prod.fst).nodup_iff.mp hnd) e)

theorem sumOver_append (l1 l2 : List (Char × Nat)) (f : Env → α) (e : Env) :
    sumOver (l1 ++ l2) f e = sumOver l1 (fun e' => sumOver l2 f e') e := by
  induction l1 generalizing e with
  | nil => rfl
  | cons p l1 ih =>
    obtain ⟨l, n⟩ := p
    exact sumRange_congr fun i _ => ih _

theorem sumOver_add (ls : List (Char × Nat)) (f g : Env → α) (e : Env) :
    sumOver ls (fun e' => f e' + g e') e = sumOver ls f e + sumOver ls g e := by
  induction ls generalizing e with
  | nil => rfl
  | cons p ls ih =>
    obtain ⟨l, n⟩ := p
    simp only [sumOver, sumRange_eq, ih, Finset.sum_add_distrib]

theorem map_sumOver {β : Type} [AddCommMonoid β] (φ : α →+ β) (ls : List (Char × Nat)) (f : Env → α)
    (e : Env) : φ (sumOver ls f e) = sumOver ls (fun e' => φ (f e')) e := by
  induction ls generalizing e with
  | nil => rfl
  | cons p ls ih =>
    obtain ⟨l, n⟩ := p
    simp only [sumOver, sumRange_eq, map_sum, ih]

theorem sumOver_zero (ls : List (Char × Nat)) (e : Env) :
    sumOver ls (fun _ => (0 : α)) e = 0 :=
  (map_sumOver (0 : α →+ α) ls (fun _ => 0) e).symm

end monoid

section semiring
variable [Semiring α]

theorem sumOver_mul_right (ls : List (Char × Nat)) (f : Env → α) (c : α) (e : Env) :
    sumOver ls (fun e' => f e' * c) e = sumOver ls f e * c :=
  (map_sumOver (AddMonoidHom.mulRight c) ls f e).symm

theorem sumOver_mul_left (ls : List (Char × Nat)) (f : Env → α) (c : α) (e : Env) :
    sumOver ls (fun e' => c * f e') e = c * sumOver ls f e :=
  (map_sumOver (AddMonoidHom.mulLeft c) ls f e).symm

theorem sumOver_const (ls : List (Char × Nat)) (c : α) (e : Env) :
    sumOver ls (fun _ => c) e = ((ls.map Prod.snd).prod : ℕ) * c := by
  induction ls generalizing e with
  | nil => simp [sumOver]
  | cons p ls ih =>
    obtain ⟨l, n⟩ := p
    simp only [sumOver, sumRange_eq, List.map_cons, List.prod_cons]
    rw [Finset.sum_congr rfl (fun i _ => ih (e.set l i))]
    simp [Finset.sum_const, mul_assoc]

end semiring

section ring
variable [Ring α]

theorem sumOver_neg (ls : List (Char × Nat)) (f : Env → α) (e : Env) :
    sumOver ls (fun e' => -f e') e = -sumOver ls f e :=
  (map_sumOver (negAddMonoidHom : α →+ α) ls f e).symm

theorem sumOver_sub (ls : List (Char × Nat)) (f g : Env → α) (e : Env) :
    sumOver ls (fun e' => f e' - g e') e = sumOver ls f e - sumOver ls g e := by
  simp only [sub_eq_add_neg]
  rw [sumOver_add, sumOver_neg]

end ring
end Flodym
