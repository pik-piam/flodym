import Flodym.System
/-!
# Floats with NaN: `np.max`, Python's `max`, and the magnitudes the default tolerance is made of

Core Lean only; that `FV` is a commutative monoid under `+` (NaN absorbs) is an instance in `Lemmas/Balance.lean`,
where Mathlib's class is in reach.
-/
namespace Flodym

theorem FV.isNan_iff (v : FV) : v.isNan = true ↔ v = FV.nan := by
  cases v
  · exact ⟨nofun, nofun⟩
  · exact ⟨fun _ => rfl, fun _ => rfl⟩

theorem FV.mul_one (a : FV) : a * 1 = a := by
  cases a
  · show FV.num (_ * 1) = _; congr 1; exact Rat.mul_one _
  · rfl

/-! ## `np.max`: a NaN anywhere wins -/

theorem npMaxStep_nan_left (y : FV) : npMaxStep FV.nan y = FV.nan := rfl
theorem npMaxStep_nan_right (x : FV) : npMaxStep x FV.nan = FV.nan := by cases x <;> rfl

/-- each step keeps a NaN among "running maximum, then the rest of the list" -/
theorem foldl_npMaxStep_nan (xs : List FV) (x : FV) (h : FV.nan ∈ x :: xs) : xs.foldl npMaxStep x = FV.nan := by
  induction xs generalizing x with
  | nil => exact (List.mem_singleton.mp h).symm
  | cons y ys ih =>
    refine ih (npMaxStep x y) ?_
    rcases List.mem_cons.mp h with rfl | h
    · exact List.mem_cons_self
    · rcases List.mem_cons.mp h with rfl | h
      · rw [npMaxStep_nan_right]; exact List.mem_cons_self
      · exact List.mem_cons_of_mem _ h

theorem npMax_nan {l : List FV} (h : FV.nan ∈ l) : npMax l = some FV.nan := by
  match l, h with
  | x :: xs, h => exact congrArg some (foldl_npMaxStep_nan xs x h)

/-! ## Python's `max(l, default=d)` -/

theorem pyMax_mem (l : List FV) (d : FV) : pyMax l d ∈ d :: l := by
  cases l with
  | nil => exact List.mem_cons_self
  | cons x xs =>
    refine List.mem_cons_of_mem _ ?_
    show xs.foldl (fun cur y => if y.gt cur then y else cur) x ∈ x :: xs
    induction xs generalizing x with
    | nil => exact List.mem_cons_self
    | cons y ys ih =>
      rw [List.foldl_cons]
      split
      · exact List.mem_cons_of_mem _ (ih y)
      · exact List.cons_subset_cons x (List.subset_cons_self y ys) (ih x)

theorem pyMax_num {l : List FV} (d : Rat) (h : ∀ v ∈ l, ∃ q, v = .num q) : ∃ q, pyMax l (.num d) = .num q :=
  (List.mem_cons.mp (pyMax_mem l (.num d))).elim (fun e => ⟨d, e⟩) (h _)

/-! ## `_max_abs`: the magnitude of an array as the default tolerance sees it -/

theorem magnitude_eq (a : FArr FV) : magnitude a = some (maxAbsNoNan a) :=
  if_pos rfl  -- `Gen.toleranceIgnoresNan` (regenerated) is `true`

theorem mapM_magnitude {α : Type} (l : List α) (g : α → FArr FV) :
    l.mapM (fun x => magnitude (g x)) = some (l.map fun x => maxAbsNoNan (g x)) := by
  simp only [magnitude_eq]; exact List.mapM_pure

/-- a number whatever the array holds: the NaN entries are filtered out -/
theorem maxAbsNoNan_num (a : FArr FV) : ∃ q, maxAbsNoNan a = .num q := by
  refine pyMax_num 0 (List.forall_mem_map.mpr fun w hw => ?_)
  cases w with
  | num x => exact ⟨_, rfl⟩
  | nan => cases (List.mem_filter.mp hw).2

theorem pyMax_maxAbsNoNan_num {α : Type} (l : List α) (g : α → FArr FV) :
    ∃ q, pyMax (l.map fun x => maxAbsNoNan (g x)) 0 = .num q :=
  pyMax_num 0 (List.forall_mem_map.mpr fun x _ => maxAbsNoNan_num (g x))

/-! ## the outcome of a check -/

theorem CheckOutcome.ite_eq_ok_iff (c r : Bool) (ns : List String) :
    (if c then CheckOutcome.ok else if r then .raised else .warned ns) = .ok ↔ c = true := by
  cases c <;> cases r <;> simp

end Flodym
