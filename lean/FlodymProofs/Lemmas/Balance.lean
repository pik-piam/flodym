import FlodymProofs.Lemmas.FV
import FlodymProofs.Lemmas.Totals
import FlodymProofs.Lemmas.Arith
/-!
# The mass balance of a process: Python's `sum()` over contribution arrays, by label
-/
namespace Flodym
open DimSet

/-! ## floats with NaN form a commutative monoid under `+` (NaN absorbs) -/

instance : AddCommMonoid FV where
  add := (· + ·)
  zero := 0
  add_assoc a b c := by
    cases a <;> cases b <;> cases c <;> simp only [HAdd.hAdd, Add.add] <;> try rfl
    · congr 1; exact Rat.add_assoc _ _ _
  zero_add a := by
    cases a
    · show FV.num (0 + _) = _; congr 1; exact Rat.zero_add _
    · rfl
  add_zero a := by
    cases a
    · show FV.num (_ + 0) = _; congr 1; exact Rat.add_zero _
    · rfl
  add_comm a b := by
    cases a <;> cases b <;> simp only [HAdd.hAdd, Add.add] <;> try rfl
    · congr 1; exact Rat.add_comm _ _
  nsmul := nsmulRec

/-! ## Python's `sum()` as a fold of `+` -/

/-- `s` holds `x + y` (by label, on the common dimensions): each of its marginals is the sum of the two marginals -/
theorem margin_add {x y s : FArr FV} (hx : WF x) (hy : WF y) (hc : Compatible x.dims y.dims)
    (hd : s.dims = intersectWith x.dims y.dims)
    (hat : ∀ e, s.at e = margin x (letters (intersectWith x.dims y.dims)) e
      + margin y (letters (intersectWith x.dims y.dims)) e)
    {L : List Char} (hL : ∀ l ∈ L, l ∈ letters (intersectWith x.dims y.dims)) (e : Env) :
    margin s L e = margin x L e + margin y L e := by
  have hnd := nodup_letters_intersectWith x.dims y.dims hx.1
  rw [margin, hd, funext hat, sumOver_add, margin_of_margin x hx _ intersectWith_sub_left hnd L hL,
    margin_of_margin y hy _ (intersectWith_sub_right hc) hnd L hL]

theorem foldl_intersect_sub (qs : List (FArr FV)) : ∀ D : DimSet,
    ∀ d ∈ qs.foldl (fun D q => intersectWith D q.dims) D, d ∈ D := by
  induction qs with
  | nil => exact fun _ _ hd => hd
  | cons q qs ih => exact fun D d hd => intersectWith_sub_left d (ih _ d hd)

/-- the `+` steps of Python's `sum()` from a running sum `acc` on: the result lives on what the dimensions of
`acc` have in common with all of `qs`, and holds the sum of the marginals of `acc` and of each of `qs` -/
theorem foldlM_add_spec (qs : List (FArr FV)) : ∀ acc : FArr FV, WF acc → (∀ q ∈ qs, WF q) →
    (∀ q ∈ qs, Compatible acc.dims q.dims) →
    Yields (qs.foldlM (fun a q => FArr.addLike? (· + ·) a (.arr q)) acc)
      (qs.foldl (fun D q => intersectWith D q.dims) acc.dims) fun e =>
        margin acc (letters (qs.foldl (fun D q => intersectWith D q.dims) acc.dims)) e +
          (qs.map fun c => margin c (letters (qs.foldl (fun D q => intersectWith D q.dims) acc.dims)) e).sum := by
  induction qs with
  | nil =>
    intro acc ha _ _
    exact ⟨acc, rfl, rfl, ha, fun e => (margin_of_sub acc _ (fun _ => letter_mem) e).symm.trans (add_zero _).symm⟩
  | cons q qs ih =>
    intro acc ha hqs hcs
    have hq := hqs q List.mem_cons_self
    have hc := hcs q List.mem_cons_self
    rw [List.foldlM_cons]
    refine (addLike_arr_spec (· + ·) acc q ha hq hc).bind fun a' hd hw hat => ?_
    -- the rest of the fold runs from `a' = acc + q`, whose dimensions are among those of `acc`
    have := ih a' hw (fun q' h => hqs q' (List.mem_cons_of_mem _ h)) fun q' h d hd' =>
      hcs q' (List.mem_cons_of_mem _ h) d (intersectWith_sub_left d (hd ▸ hd'))
    rw [hd] at this
    refine this.congr fun e => ?_
    rw [List.foldl_cons, List.map_cons, List.sum_cons, ← add_assoc,
      margin_add ha hq hc hd hat (letters_sub (foldl_intersect_sub qs _))]

end Flodym
