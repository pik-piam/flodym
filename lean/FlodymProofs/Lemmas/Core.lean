import Flodym.SubArray
import FlodymProofs.Lemmas.List
/-!
# The label view of arrays (`FArr.at`, `Valid`, `WF`, `margin`), environments and `bind`, congruence of
nested sums, and `Yields`: what an operation returns, by label (core Lean only)
-/
namespace Flodym
open DimSet

variable {α : Type}

/-! ## the label view used by all array theorems -/

/-- entry of `x` under the labels chosen by `e` -/
def FArr.at (x : FArr α) (e : Env) : α := x.values.get (x.letters.map e)

/-- `e` picks an existing item position for every dimension of `D` -/
def Valid (D : DimSet) (e : Env) : Prop := ∀ d ∈ D, e d.letter < d.len

/-- well-formed array: distinct letters, values shaped like the dimensions -/
def WF (x : FArr α) : Prop := x.letters.Nodup ∧ x.values.shape = DimSet.shape x.dims

/-- "the dimensions come from one common dimension set": equal letters mean equal dimensions -/
def Compatible (D D' : DimSet) : Prop := ∀ d ∈ D, ∀ d' ∈ D', d.letter = d'.letter → d = d'

instance (x : FArr α) : Decidable (WF x) := by unfold WF; exact inferInstance
instance (D D' : DimSet) : Decidable (Compatible D D') := by unfold Compatible; exact inferInstance
instance (D : DimSet) (e : Env) : Decidable (Valid D e) := by unfold Valid; exact inferInstance

/-- the (letter, length) pairs of the dimensions of `D` whose letter is not in `keep` -/
def summedOf (D : DimSet) (keep : List Char) : List (Char × Nat) :=
  (D.filter (fun d => !(keep.contains d.letter))).map (fun d => (d.letter, d.len))

section
variable [Add α] [OfNat α 0]
/-- marginal sum: `x` summed over all its dimensions whose letter is not in `keep` -/
def margin (x : FArr α) (keep : List Char) (e : Env) : α :=
  sumOver (summedOf x.dims keep) x.at e
end

/-! ## environments -/

theorem Env.set_same (e : Env) (l : Char) (i : Nat) : (e.set l i) l = i := by simp [Env.set]
theorem Env.set_ne (e : Env) {l c : Char} (i : Nat) (h : c ≠ l) : (e.set l i) c = e c := by
  simp [Env.set, h]

theorem Env.set_comm (e : Env) {l1 l2 : Char} (h : l1 ≠ l2) (i j : Nat) :
    (e.set l1 i).set l2 j = (e.set l2 j).set l1 i := by
  funext c
  by_cases h2 : c = l2
  · subst h2; rw [Env.set_same, Env.set_ne _ _ (Ne.symm h), Env.set_same]
  · rw [Env.set_ne _ _ h2]
    by_cases h1 : c = l1
    · subst h1; rw [Env.set_same, Env.set_same]
    · rw [Env.set_ne _ _ h1, Env.set_ne _ _ h1, Env.set_ne _ _ h2]

theorem bind_apply_notin {ls : List Char} {is : List Nat} {e : Env} {c : Char} (h : c ∉ ls) :
    bind ls is e c = e c := by
  induction ls generalizing is e with
  | nil => rfl
  | cons l ls ih =>
    cases is with
    | nil => rfl
    | cons i is =>
      rw [List.mem_cons, not_or] at h
      rw [bind, ih h.2, Env.set, if_neg h.1]

theorem bind_map_self (ls : List Char) (e e0 : Env) (hnd : ls.Nodup) (c : Char) (hc : c ∈ ls) :
    bind ls (ls.map e) e0 c = e c := by
  induction ls generalizing e0 with
  | nil => cases hc
  | cons l ls ih =>
    rw [List.nodup_cons] at hnd
    rw [List.map_cons, bind]
    cases hc with
    | head => rw [bind_apply_notin hnd.1, Env.set_same]
    | tail _ h' => exact ih _ hnd.2 h'

theorem map_set_idxOf {L : List Char} (hnd : L.Nodup) (l : Char) (e : Env) (i : Nat) :
    (L.map e).set (L.idxOf l) i = L.map (e.set l i) := by
  induction L with
  | nil => rfl
  | cons a L ih =>
    rw [List.nodup_cons] at hnd
    by_cases h : a = l
    · subst h
      rw [List.idxOf_cons_self, List.map_cons, List.set_cons_zero, List.map_cons, Env.set_same]
      exact congrArg _ (List.map_congr_left fun c hc =>
        (Env.set_ne e i fun (hca : c = a) => hnd.1 (hca ▸ hc)).symm)
    · have hidx : (a :: L).idxOf l = L.idxOf l + 1 := by
        rw [List.idxOf_cons, beq_eq_false_iff_ne.mpr h]; rfl
      rw [hidx, List.map_cons, List.set_cons_succ, ih hnd.2, List.map_cons, Env.set_ne _ _ h]

/-! ## nested sums -/
section sums
variable [Add α] [OfNat α 0]

theorem sumRange_eq_foldr_map (n : Nat) (f : Nat → α) :
    sumRange n f = ((List.range n).map f).foldr (· + ·) 0 := List.foldr_map.symm

theorem sumRange_congr {n : Nat} {f g : Nat → α} (h : ∀ i, i < n → f i = g i) :
    sumRange n f = sumRange n g := by
  rw [sumRange_eq_foldr_map, sumRange_eq_foldr_map,
    List.map_congr_left fun i hi => h i (List.mem_range.mp hi)]

/-- where the summand is evaluated: the environment agrees with the base one off the summed letters
and gives every summed letter a position below one of its sizes -/
theorem sumOver_congr_inside {ls : List (Char × Nat)} {f g : Env → α} {e : Env}
    (h : ∀ e', (∀ c, c ∉ ls.map Prod.fst → e' c = e c) →
      (∀ c ∈ ls.map Prod.fst, ∃ n, (c, n) ∈ ls ∧ e' c < n) → f e' = g e') :
    sumOver ls f e = sumOver ls g e := by
  induction ls generalizing e with
  | nil => exact h e (fun _ _ => rfl) (fun _ hc => absurd hc List.not_mem_nil)
  | cons p ls ih =>
    obtain ⟨l, n⟩ := p
    refine sumRange_congr fun i hi => ih fun e' hoff hin => h e' (fun c hc => ?_) fun c hc => ?_
    · rw [List.map_cons, List.mem_cons, not_or] at hc
      rw [hoff c hc.2, Env.set_ne _ _ hc.1]
    · by_cases hcl : c ∈ ls.map Prod.fst
      · obtain ⟨m, hm, hlt⟩ := hin c hcl
        exact ⟨m, List.mem_cons_of_mem _ hm, hlt⟩
      · obtain rfl : c = l := by simpa [hcl] using hc
        exact ⟨n, List.mem_cons_self, by rw [hoff c hcl, Env.set_same]; exact hi⟩

/-- a nested sum only looks at the base environment on the letters the summand depends on,
minus the letters it binds itself -/
theorem sumOver_env_congr {ls : List (Char × Nat)} {f : Env → α} (S : List Char)
    (hf : ∀ e e', (∀ c ∈ S, e c = e' c) → f e = f e') {e e' : Env}
    (h : ∀ c ∈ S, c ∉ ls.map Prod.fst → e c = e' c) :
    sumOver ls f e = sumOver ls f e' := by
  induction ls generalizing e e' with
  | nil => exact hf _ _ fun c hc => h c hc List.not_mem_nil
  | cons p ls ih =>
    obtain ⟨l, n⟩ := p
    refine sumRange_congr fun i _ => ih fun c hc hnot => ?_
    by_cases hcl : c = l
    · rw [hcl, Env.set_same, Env.set_same]
    · rw [Env.set_ne _ _ hcl, Env.set_ne _ _ hcl]
      exact h c hc (by rw [List.map_cons, List.mem_cons, not_or]; exact ⟨hcl, hnot⟩)

end sums

/-! ## what an operation returns, by label -/

/-- `o` returns a well-formed array over the dimensions `D` whose entry under the labels `e` is `f e` -/
def Yields (o : Option (FArr α)) (D : DimSet) (f : Env → α) : Prop :=
  ∃ r, o = some r ∧ r.dims = D ∧ WF r ∧ ∀ e, r.at e = f e

theorem FArr.mk?_eq_some {dims : DimSet} {v : ND α} (hnd : (DimSet.letters dims).Nodup)
    (h : v.shape = DimSet.shape dims) :
    FArr.mk? dims v = some ⟨dims, v⟩ := by
  unfold FArr.mk?; rw [if_pos ⟨hnd, h⟩]

theorem FArr.mk?_wf {dims : DimSet} {v : ND α} {r : FArr α} (h : FArr.mk? dims v = some r) :
    r = ⟨dims, v⟩ ∧ WF r := by
  obtain ⟨hc, rfl⟩ := of_ite_eq_some h
  exact ⟨rfl, hc⟩

theorem FArr.mk?_yields_wf {dims : DimSet} {v : ND α} : ∀ r, FArr.mk? dims v = some r → WF r :=
  fun _ h => (FArr.mk?_wf h).2

/-- every operator ends in the constructor -/
theorem Yields.mk {D : DimSet} {v : ND α} (hnd : (letters D).Nodup) (h : v.shape = DimSet.shape D) :
    Yields (FArr.mk? D v) D (fun e => v.get ((letters D).map e)) :=
  ⟨⟨D, v⟩, FArr.mk?_eq_some hnd h, rfl, ⟨hnd, h⟩, fun _ => rfl⟩

variable {o : Option (FArr α)} {D D' : DimSet} {f g : Env → α}

theorem Yields.congr (h : Yields o D f) (hf : ∀ e, f e = g e) : Yields o D g := by
  obtain ⟨r, h1, h2, h3, h4⟩ := h
  exact ⟨r, h1, h2, h3, fun e => (h4 e).trans (hf e)⟩

theorem Yields.dims_eq (h : Yields o D f) (hD : D = D') : Yields o D' f := hD ▸ h

theorem Yields.bind {k : FArr α → Option (FArr α)} (h : Yields o D f)
    (hk : ∀ r, r.dims = D → WF r → (∀ e, r.at e = f e) → Yields (k r) D' g) :
    Yields (o.bind k) D' g := by
  obtain ⟨r, rfl, h2, h3, h4⟩ := h
  exact hk r h2 h3 h4

/-- the shape of the conclusions of C04: both calls return, over these dimensions, with the same entries -/
theorem Yields.pair {o' : Option (FArr α)} {f' : Env → α} (h : Yields o D f)
    (h' : Yields o' D' f') (hf : ∀ e, f' e = f e) :
    ∃ r r', o = some r ∧ o' = some r' ∧ r.dims = D ∧ r'.dims = D' ∧ ∀ e, r'.at e = r.at e := by
  obtain ⟨r, h1, h2, _, h4⟩ := h
  obtain ⟨r', h1', h2', _, h4'⟩ := h'
  exact ⟨r, r', h1, h1', h2, h2', fun e => by rw [h4, h4', hf]⟩

/-- the same statement with the result's own letters in place of `letters D` -/
theorem Yields.own_letters {f : List Char → Env → α} (h : Yields o D (f (letters D))) :
    ∃ r, o = some r ∧ r.dims = D ∧ WF r ∧ ∀ e, r.at e = f r.letters e := by
  obtain ⟨r, h1, rfl, h3, h4⟩ := h
  exact ⟨r, h1, rfl, h3, h4⟩

end Flodym
