import Flodym.Stocks
import FlodymProofs.Lemmas.Fubini
import Mathlib.Algebra.Field.Basic
import Mathlib.Tactic.Ring
/-!
# Helper lemmas for the stock models: what the regenerated einsum patterns compute, the time grid,
closed forms of the inflow-driven model's results (and the inflow the stock-driven one finds), `pdfTable` on lower-triangular tables and the telescoping
step, forward substitution, the aggregate of `check_stock_balance`
-/
open Finset BigOperators
namespace Flodym.DSM

variable {K : Type} [Field K]

/-! ## the regenerated subscripts mean what the model assumes -/

theorem toWholePeriod_apply (it : Nat → K) (n : Nat) (a : Nat → Nat → K) (t j : Nat) :
    toWholePeriod it n a t j = a t j * dt it n t := by
  unfold toWholePeriod scaleByT
  have : parsePattern Gen.wholePeriodSub = some .scaleByT := by decide +kernel
  rw [this]

theorem toAnnual_apply (it : Nat → K) (n : Nat) (a : Nat → Nat → K) (t j : Nat) :
    toAnnual it n a t j = a t j / dt it n t := by
  unfold toAnnual scaleByT
  have : parsePattern Gen.annualSub = some .scaleByT := by decide +kernel
  rw [this]
  exact mul_one_div _ _

theorem cohortMul_stock (a : Nat → Nat → K) (b : Nat → Nat → Nat → K) (t c j : Nat) :
    cohortMul Gen.stockCohortSub a b t c j = a c j * b t c j := by
  unfold cohortMul
  have : parsePattern Gen.stockCohortSub = some .cohort := by decide +kernel
  rw [this]

-- the next two hold by `cohortMul_stock` as long as the source uses the same subscript string at all three sites
-- (the regenerated constants then unfold to one literal); should one of them change, its lemma needs its own evaluation
theorem cohortMul_sd (a : Nat → Nat → K) (b : Nat → Nat → Nat → K) (t c j : Nat) :
    cohortMul Gen.sdCohortSub a b t c j = a c j * b t c j := cohortMul_stock a b t c j

theorem cohortMul_outflow (a : Nat → Nat → K) (b : Nat → Nat → Nat → K) (t c j : Nat) :
    cohortMul Gen.outflowCohortSub a b t c j = a c j * b t c j := cohortMul_stock a b t c j

theorem cohortScale_outflow (a : Nat → Nat → Nat → K) (v : Nat → K) (t c j : Nat) :
    cohortScaleByT Gen.outflowAnnualSub a v t c j = a t c j * v t := by
  unfold cohortScaleByT
  have : parsePattern Gen.outflowAnnualSub = some .cohortScaleByT := by decide +kernel
  rw [this]

theorem sumCohorts_eq (n : Nat) (a : Nat → Nat → Nat → K) (t j : Nat) :
    sumCohorts n a t j = ∑ c ∈ range n, a t c j := by
  unfold sumCohorts; exact sumRange_eq _ _

theorem sumList_range_map {n : Nat} {f : Nat → K} :
    sumList ((List.range n).map f) = ∑ i ∈ range n, f i := by
  rw [sumList, List.foldr_map]; exact sumRange_eq n f

/-! ## the time grid -/

section grid
variable (it : Nat → K) (n : Nat)

theorem bounds_inner {k : Nat} (hk : 0 < k) (hkn : k < n) : bounds it n k = mid it (k - 1) := by
  rw [bounds, if_neg (Nat.ne_of_gt hk), if_pos hkn]

/-- every interval length is the distance between two neighbouring midpoints; the first and the
last interval borrow the pair of their neighbour -/
theorem dt_eq (hn : 3 ≤ n) {t : Nat} (ht : t < n) :
    dt it n t = mid it (min (t - 1) (n - 3) + 1) - mid it (min (t - 1) (n - 3)) := by
  unfold dt
  -- with `n = m + 3` and `t = s + 1` every subtraction in `bounds` and in the statement cancels
  obtain ⟨m, rfl⟩ := Nat.exists_eq_add_of_le' hn
  rw [Nat.add_sub_cancel]
  cases t with
  | zero =>
    rw [bounds_inner it _ Nat.one_pos (Nat.succ_lt_succ (Nat.succ_pos _)), bounds, if_pos rfl, Nat.zero_sub,
      Nat.zero_min, sub_sub_cancel]
  | succ s =>
    rw [Nat.add_sub_cancel, bounds_inner it _ s.succ_pos ht, Nat.succ_sub_one]
    rcases Nat.lt_or_eq_of_le (Nat.le_of_lt_succ (Nat.lt_of_succ_lt_succ ht)) with hl | rfl
    · rw [bounds_inner it _ (s + 1).succ_pos (Nat.succ_lt_succ (Nat.succ_lt_succ hl)), Nat.succ_sub_one,
        Nat.min_eq_left (Nat.le_of_lt_succ hl)]
    · rw [bounds, if_neg (Nat.succ_ne_zero _), if_neg (Nat.lt_irrefl _), Nat.min_eq_right (Nat.le_succ m)]
      exact add_sub_cancel_left _ _

theorem age_self (eta : K) (c : Nat) : age it n eta c c = (1 - eta) * dt it n c := by
  unfold age dt; ring

theorem age_succ (eta : K) (c t : Nat) : age it n eta c (t + 1) = age it n eta c t + dt it n (t + 1) := by
  unfold age dt; exact (sub_add_sub_cancel' _ _ _).symm

end grid

/-! ## results of the inflow-driven model, entry by entry (the stock-driven one is it at the inflow found) -/

section closedForms
variable (it : Nat → K) (n : Nat) (inflow : Nat → Nat → K) (sf : Nat → Nat → Nat → K)

theorem computeOutflow_obc (pdf : Nat → Nat → Nat → K) (t c j : Nat) :
    (computeOutflow it n inflow pdf).1 t c j = inflow c j * dt it n c * pdf t c j / dt it n t := by
  unfold computeOutflow
  simp only [cohortScale_outflow, cohortMul_outflow, toWholePeriod_apply, mul_one_div]

theorem computeOutflow_outflow (pdf : Nat → Nat → Nat → K) (t j : Nat) :
    (computeOutflow it n inflow pdf).2 t j
      = ∑ c ∈ range n, inflow c j * dt it n c * pdf t c j / dt it n t := by
  unfold computeOutflow
  simp only [sumCohorts_eq, cohortScale_outflow, cohortMul_outflow, toWholePeriod_apply, mul_one_div]

theorem inflowDriven_sbc (t c j : Nat) :
    (inflowDriven it n inflow sf).stockByCohort t c j = inflow c j * dt it n c * sf t c j := by
  unfold inflowDriven inflowDrivenWith
  simp only [cohortMul_stock, toWholePeriod_apply]

theorem inflowDriven_stock (t j : Nat) :
    (inflowDriven it n inflow sf).stock t j = ∑ c ∈ range n, inflow c j * dt it n c * sf t c j := by
  unfold inflowDriven inflowDrivenWith
  simp only [sumCohorts_eq, cohortMul_stock, toWholePeriod_apply]

theorem inflowDriven_obc (t c j : Nat) :
    (inflowDriven it n inflow sf).outflowByCohort t c j
      = inflow c j * dt it n c * pdfTable sf t c j / dt it n t :=
  computeOutflow_obc it n inflow (pdfTable sf) t c j

theorem inflowDriven_outflow (t j : Nat) :
    (inflowDriven it n inflow sf).outflow t j
      = ∑ c ∈ range n, inflow c j * dt it n c * pdfTable sf t c j / dt it n t :=
  computeOutflow_outflow it n inflow (pdfTable sf) t j

theorem inflowDriven_obc_mul_dt (t c j : Nat) (hdt : dt it n t ≠ 0) :
    (inflowDriven it n inflow sf).outflowByCohort t c j * dt it n t
      = inflow c j * dt it n c * pdfTable sf t c j := by
  rw [inflowDriven_obc, div_mul_cancel₀ _ hdt]

theorem inflowDriven_outflow_mul_dt (t j : Nat) (hdt : dt it n t ≠ 0) :
    (inflowDriven it n inflow sf).outflow t j * dt it n t
      = ∑ c ∈ range n, inflow c j * dt it n c * pdfTable sf t c j := by
  rw [inflowDriven_outflow, sum_mul]
  exact sum_congr rfl fun c _ => div_mul_cancel₀ _ hdt

end closedForms

theorem inflowDriven_inflow (it : Nat → K) (n : Nat) (inflow : Nat → Nat → K) (sf : Nat → Nat → Nat → K) :
    (inflowDriven it n inflow sf).inflow = inflow := rfl

theorem stockDriven_inflow (it : Nat → K) (n : Nat) (stock : Nat → Nat → K) (sf : Nat → Nat → Nat → K)
    (t j : Nat) :
    (stockDriven it n stock sf).inflow t j = sdInflowWP n stock sf t j / dt it n t :=
  toAnnual_apply it n _ t j

/-! ## lower-triangular tables -/

/-- a survival table is lower triangular -/
def LowerTri (sf : Nat → Nat → Nat → K) : Prop := ∀ t c j, t < c → sf t c j = 0

/-- the stock of an inflow-driven model, as a triangular system in the whole-period inflow -/
theorem inflowDriven_stock_tri (it : Nat → K) (n : Nat) (inflow : Nat → Nat → K)
    (sf : Nat → Nat → Nat → K) (hlt : LowerTri sf) (t j : Nat) (ht : t < n) :
    (inflowDriven it n inflow sf).stock t j
      = ∑ c ∈ range (t + 1), sf t c j * (inflow c j * dt it n c) := by
  rw [inflowDriven_stock, eventually_constant_sum (fun c hc => by rw [hlt t c j hc, mul_zero]) ht]
  exact sum_congr rfl fun c _ => mul_comm _ _

theorem pdfTable_of_lt (sf : Nat → Nat → Nat → K) (t c j : Nat) (h : t < c) : pdfTable sf t c j = 0 :=
  if_pos h

/-- on a lower-triangular table the outflow probability is the drop of the survival since the year before
(nothing survives from before year 0), plus the whole cohort in its own year: the equation every balance
below rests on -/
theorem pdfTable_eq {sf : Nat → Nat → Nat → K} (hlt : LowerTri sf) (t c j : Nat) :
    pdfTable sf t c j = (if c = t then 1 else 0) + (if t = 0 then 0 else sf (t - 1) c j) - sf t c j := by
  -- up to its own year a cohort had no survival the year before
  have hprev (h : t ≤ c) : (if t = 0 then 0 else sf (t - 1) c j) = 0 :=
    ite_eq_left_iff.2 fun h0 => hlt _ c j (Nat.lt_of_lt_of_le (Nat.sub_one_lt h0) h)
  unfold pdfTable
  rcases Nat.lt_trichotomy t c with h | rfl | h
  · rw [if_pos h, if_neg (Nat.ne_of_gt h), hprev h.le, hlt t c j h, add_zero, sub_zero]
  · rw [if_neg (Nat.lt_irrefl _), if_pos rfl, if_pos rfl, hprev le_rfl, add_zero]
  · rw [if_neg (Nat.lt_asymm h), if_neg (Nat.ne_of_gt h), if_neg (Nat.ne_of_lt h), if_neg (Nat.ne_zero_of_lt h),
      zero_add]

/-- the telescoping identity: for any cohort weights `w` (whole-period inflows), the cohort-summed
stock `Σ_c w_c sf_tc` changes from `t-1` to `t` by `w_t` minus the whole-period cohort outflows -/
theorem stock_step {sf : Nat → Nat → Nat → K} (hlt : LowerTri sf) (n : Nat) (w : Nat → K) (j t : Nat)
    (ht : t < n) :
    (∑ c ∈ range n, w c * sf t c j) - (if t = 0 then 0 else ∑ c ∈ range n, w c * sf (t - 1) c j)
      = w t - ∑ c ∈ range n, w c * pdfTable sf t c j := by
  -- `pdfTable_eq` summed over the cohorts with weights `w`: the indicator picks `w t`, the rest is the two stocks
  simp only [pdfTable_eq hlt, mul_sub, mul_add, sum_sub_distrib, sum_add_distrib, mul_ite, mul_one, mul_zero,
    sum_ite_eq', mem_range.2 ht, if_true, sum_ite_irrel, sum_const_zero]
  ring

/-- … and summed over the years: the cumulative outflow probability, what has left a cohort by the end of year `t` -/
theorem pdf_cumsum {sf : Nat → Nat → Nat → K} (hlt : LowerTri sf) (c j : Nat) (t : Nat) :
    ∑ s ∈ range (t + 1), pdfTable sf s c j = (if c ≤ t then 1 else 0) - sf t c j := by
  -- the indicator of `c ≤ t` written as a sum over the years, so that a year adds one term on each side
  have h : ∑ s ∈ range (t + 1), pdfTable sf s c j + sf t c j = ∑ s ∈ range (t + 1), if c = s then 1 else 0 := by
    induction t with
    | zero => rw [sum_range_one, sum_range_one, pdfTable_eq hlt, if_pos rfl, add_zero, sub_add_cancel]
    | succ t ih =>
      rw [sum_range_succ, sum_range_succ _ (t + 1), ← ih, pdfTable_eq hlt, if_neg t.succ_ne_zero,
        Nat.add_sub_cancel, add_assoc, sub_add_cancel, ← add_assoc, add_right_comm]
  rw [eq_sub_iff_add_eq, h, sum_ite_eq]
  simp only [mem_range, Nat.lt_succ_iff]

/-! ## forward substitution -/

theorem manual_length (stock : Nat → Nat → K) (sf : Nat → Nat → Nat → K) (j : Nat) :
    ∀ i, (inflowWholePeriodManual stock sf j i).length = i
  | 0 => rfl
  | i + 1 => by
    simp only [inflowWholePeriodManual, List.length_append, List.length_singleton, manual_length stock sf j i]

/-- earlier entries are not touched by later rows -/
theorem manual_prefix (stock : Nat → Nat → K) (sf : Nat → Nat → Nat → K) (j : Nat) {i k n : Nat}
    (hk : k < i) (hin : i ≤ n) :
    (inflowWholePeriodManual stock sf j n).getD k 0 = (inflowWholePeriodManual stock sf j i).getD k 0 := by
  induction n, hin using Nat.le_induction with
  | base => rfl
  | succ m hm ih =>
    rw [← ih]
    simp only [inflowWholePeriodManual]
    rw [List.getD_eq_getElem?_getD, List.getD_eq_getElem?_getD,
      List.getElem?_append_left (by rw [manual_length]; exact Nat.lt_of_lt_of_le hk hm)]

/-- row by row, column `j` is computed from column `j` of the inputs alone -/
theorem manual_label_independent (s : Nat → Nat → K) (sf : Nat → Nat → Nat → K) (j : Nat) :
    ∀ i, inflowWholePeriodManual s sf j i
      = inflowWholePeriodManual (fun t _ => s t j) (fun t c _ => sf t c j) 0 i
  | 0 => rfl
  | i + 1 => by
    simp only [inflowWholePeriodManual, manual_label_independent s sf j i]

theorem sdInflowWP_eq (n : Nat) (stock : Nat → Nat → K) (sf : Nat → Nat → Nat → K) (t j : Nat) (ht : t < n) :
    sdInflowWP n stock sf t j
      = (stock t j - ∑ c ∈ range t, sf t c j * sdInflowWP n stock sf c j) / sf t t j := by
  unfold sdInflowWP
  -- entry `t` is written by row `t`, from the entries before it as they stand then
  rw [manual_prefix stock sf j t.lt_succ_self ht]
  simp only [inflowWholePeriodManual]
  rw [List.getD_eq_getElem?_getD, List.getElem?_append_right (by rw [manual_length]), manual_length,
    Nat.sub_self, List.getElem?_cons_zero, Option.getD_some, sumList_range_map]
  exact congrArg (fun s => (stock t j - s) / sf t t j) <| sum_congr rfl fun c hc => by
    rw [manual_prefix stock sf j (mem_range.1 hc) (Nat.le_of_lt ht)]

/-- the manual solver solves the lower-triangular system `Σ_{c≤t} sf_tc x_c = stock_t` -/
theorem manual_solves (n : Nat) (stock : Nat → Nat → K) (sf : Nat → Nat → Nat → K)
    (hd : ∀ t j, t < n → sf t t j ≠ 0) (t j : Nat) (ht : t < n) :
    ∑ c ∈ range (t + 1), sf t c j * sdInflowWP n stock sf c j = stock t j := by
  rw [sum_range_succ, sdInflowWP_eq n stock sf t j ht, mul_div_cancel₀ _ (hd t j ht), add_sub_cancel]

/-- … and its solution is the only one (this is what LAPACK's `trtrs` is specified to return) -/
theorem solution_unique (n : Nat) (stock : Nat → Nat → K) (sf : Nat → Nat → Nat → K)
    (hd : ∀ t j, t < n → sf t t j ≠ 0) (x : Nat → Nat → K) (j : Nat)
    (hx : ∀ t, t < n → ∑ c ∈ range (t + 1), sf t c j * x c j = stock t j) :
    ∀ t, t < n → x t j = sdInflowWP n stock sf t j := by
  intro t
  induction t using Nat.strong_induction_on with
  | _ t ih =>
    intro ht
    -- row `t` of the system determines `x t` from the earlier entries, as `sdInflowWP_eq` does
    rw [sdInflowWP_eq n stock sf t j ht, eq_div_iff (hd t j ht), eq_sub_iff_add_eq', ← hx t ht, sum_range_succ,
      mul_comm (x t j)]
    exact congrArg (· + _) (sum_congr rfl fun c hc => by rw [ih c (mem_range.1 hc) ((mem_range.1 hc).trans ht)])

/-! ## order: the `abs` / `max` of `check_stock_balance` -/

theorem foldl_max_le_iff {α : Type} [LinearOrder α] (l : List α) (a b : α) :
    l.foldl max a ≤ b ↔ a ≤ b ∧ ∀ x ∈ l, x ≤ b := by
  induction l generalizing a with
  | nil => exact ⟨fun h => ⟨h, nofun⟩, fun h => h.1⟩
  | cons c l ih => rw [List.foldl_cons, ih, max_le_iff, List.forall_mem_cons, and_assoc]

theorem maxK_eq_max {α : Type} [LinearOrder α] : (maxK : α → α → α) = max := by
  funext a b
  unfold maxK
  split
  next h => exact (max_eq_right h.le).symm
  next h => exact (max_eq_left (not_lt.1 h)).symm

section order
variable [LinearOrder K] [IsStrictOrderedRing K]

theorem absK_eq_abs (a : K) : absK a = |a| := by
  unfold absK
  split
  next h => exact (abs_of_neg h).symm
  next h => exact (abs_of_nonneg (not_lt.1 h)).symm

/-- `np.max(np.abs(balance).sum(axis=0))`: the least bound of 0 and of every column's sum of
absolute values -/
theorem balanceAggregate_le_iff (n m : Nat) (bal : Nat → Nat → K) (b : K) :
    balanceAggregate n m bal ≤ b ↔ 0 ≤ b ∧ ∀ j, j < m → ∑ t ∈ range n, |bal t j| ≤ b := by
  unfold balanceAggregate
  rw [maxK_eq_max, foldl_max_le_iff]
  simp only [List.mem_map, List.mem_range, forall_exists_index, and_imp, forall_apply_eq_imp_iff₂,
    sumRange_eq, absK_eq_abs]

end order

end Flodym.DSM
