import FlodymProofs.Lemmas.Table
/-!
# Lemmas for the table tier: the stages of the DataFrame converter before the placement

What each stage does to a frame in the named long layout (`C11.NamedLong`: the layout `to_df`
writes), and what the type conversion does to the cells `to_df` writes.
-/

namespace Flodym.C11
open Flodym Flodym.Table DimSet

/-- a frame in the named long layout: one column per dimension, labelled with the dimension's name,
in the order of the dimensions, followed by one value column -/
structure NamedLong (dims : DimSet) (df : DF) (vcol : String) : Prop where
  cols : df.cols = (names dims).map Cell.str ++ [.str vcol]
  nonempty : dims ≠ []
  namesOk : NamesOk dims
  vcol_not_name : vcol ∉ names dims
  vcol_not_letter : ∀ d ∈ dims, d.letter.toString ≠ vcol
  vcol_not_items : ∀ d ∈ dims, sameItems [.str vcol] d = false

theorem NamedLong.cols_str {dims : DimSet} {df : DF} {vcol : String} (h : NamedLong dims df vcol) :
    df.cols = (names dims ++ [vcol]).map Cell.str := by
  rw [h.cols, List.map_append, List.map_singleton]

end Flodym.C11

namespace Flodym.Table
open Flodym DimSet C11

/-! ## finding a column -/

theorem colIdx?_eq_some (df : DF) (c : Cell) (j : Nat) (hj : j < df.cols.length) (hc : df.cols[j].pyEq c = true)
    (hu : ∀ i (hi : i < df.cols.length), df.cols[i].pyEq c = true → i = j) : df.colIdx? c = some j := by
  unfold DF.colIdx?
  have hget : ∀ i (hi : i < df.cols.length), df.cols.getD i .nan = df.cols[i] := fun i hi =>
    (List.getElem_eq_getD Cell.nan).symm
  rw [filter_range_unique j hj (by rwa [hget j hj])]
  intro i hi hp
  exact hu i hi (by rwa [hget i hi] at hp)

theorem colIdx?_str (df : DF) (l : List String) (hl : df.cols = l.map Cell.str) (j : Nat) (hj : j < l.length)
    (hu : ∀ i (hi : i < l.length), l[i] = l[j] → i = j) : df.colIdx? (.str l[j]) = some j := by
  obtain ⟨cols, rows⟩ := df
  cases hl
  refine colIdx?_eq_some _ _ j (by rwa [List.length_map]) (by rw [List.getElem_map]; exact beq_self_eq_true _)
    fun i hi hp => ?_
  rw [List.getElem_map] at hp
  exact hu i (by rwa [List.length_map] at hi) (beq_iff_eq.mp hp)

/-! ## the recognition stages leave a frame in the named long layout as it is -/

theorem renameLetter_other (dims : DimSet) (s : String) (h : ∀ d ∈ dims, d.letter.toString ≠ s) :
    renameLetter dims (.str s) = .str s := by
  have : dims.find? (fun d => d.letter.toString == s) = none :=
    List.find?_eq_none.mpr fun d hd he => h d hd (beq_iff_eq.mp he)
  simp only [renameLetter, this]

theorem isDimCol_str {l : List String} {s : String} : isDimCol l (.str s) = true ↔ s ∈ l :=
  List.contains_iff_mem

/-- the header guard: when the first column is a dimension's, nothing is read as a row of items -/
theorem firstRowItems?_dimCol {dims : DimSet} {c : Conv} {cn : Cell} {rest : List Cell} (hc : c.df.cols = cn :: rest)
    (hg : isDimCol c.dimCols cn = true) : firstRowItems? dims c = some c := by
  unfold firstRowItems?
  rw [hc]
  exact if_pos hg

theorem byItemsOne?_dimCol {dims : DimSet} {c : Conv} {cn : Cell} (h : isDimCol c.dimCols cn = true) :
    byItemsOne? dims c cn = some (c, true) := if_pos h

section
variable {dims : DimSet} {df : DF} {vcol : String} (h : NamedLong dims df vcol)
include h

theorem isDimCol_vcol : isDimCol (names dims) (.str vcol) = false :=
  Bool.eq_false_iff.mpr (mt isDimCol_str.mp h.vcol_not_name)

theorem byNameOrLetter_named : byNameOrLetter dims df = { df := df, dimCols := names dims } := by
  -- no column is labelled with a letter (a letter is one character, a name at least two)
  have hren : df.cols.map (renameLetter dims) = df.cols := by
    rw [h.cols, List.map_append, List.map_map, List.map_singleton, renameLetter_other dims vcol h.vcol_not_letter]
    congr 1
    exact List.map_congr_left <| List.forall_mem_map.mpr fun d' hd' =>
      renameLetter_other dims d'.name fun d _ => toString_ne_name h.namesOk hd' d.letter
  have hdim : df.cols.filterMap (dimColName? dims) = names dims := by
    have hname : ∀ s ∈ names dims, (dimColName? dims ∘ Cell.str) s = some s := fun s hs =>
      if_pos (List.contains_iff_mem.mpr hs)
    have hv : dimColName? dims (.str vcol) = none := if_neg (mt List.contains_iff_mem.mp h.vcol_not_name)
    rw [h.cols, List.filterMap_append, List.filterMap_map, List.filterMap_congr hname, List.filterMap_some,
      List.filterMap_cons_none hv, List.filterMap_nil, List.append_nil]
  unfold byNameOrLetter
  rw [hren, hdim]

theorem firstRow_named :
    firstRowItems? dims { df := df, dimCols := names dims } = some { df := df, dimCols := names dims } := by
  obtain ⟨d, ds, rfl⟩ := List.exists_cons_of_ne_nil h.nonempty
  exact firstRowItems?_dimCol h.cols (isDimCol_str.mpr (List.mem_cons_self ..))

theorem colIdx_value : df.colIdx? (.str vcol) = some dims.length := by
  have := colIdx?_str df (names dims ++ [vcol]) h.cols_str (names dims).length (by simp) fun i hi he => by
    rcases Nat.lt_or_ge i (names dims).length with hi' | hi'
    · rw [List.getElem_append_left hi', List.getElem_concat_length rfl] at he
      exact absurd (he ▸ List.getElem_mem hi') h.vcol_not_name
    · exact Nat.le_antisymm (Nat.le_of_lt_succ (by simpa using hi)) hi'
  rwa [List.getElem_concat_length rfl, show (names dims).length = dims.length from List.length_map _] at this

theorem colIdx_names (hnd : (names dims).Nodup) :
    dims.mapM (fun d => df.colIdx? (.str d.name)) = some (List.range dims.length) := by
  have hnd' : (names dims ++ [vcol]).Nodup := List.concat_eq_append ▸ hnd.concat h.vcol_not_name
  refine mapM_eq_some_of_getElem List.length_range fun j hj => ?_
  have hjn : j < (names dims).length := (List.length_map (as := dims) (·.name)).symm ▸ hj
  have := colIdx?_str df (names dims ++ [vcol]) h.cols_str j
    (by rw [List.length_append]; exact Nat.lt_add_right _ hjn) fun i hi he => (List.Nodup.getElem_inj_iff hnd').mp he
  rw [List.getElem_append_left hjn, show (names dims)[j] = dims[j].name from List.getElem_map _] at this
  rw [List.getElem_range]
  exact this

/-- the value column is looked at and matches no dimension: all of them are identified already -/
theorem byItemsOne?_vcol :
    byItemsOne? dims { df := df, dimCols := names dims } (.str vcol) =
      some ({ df := df, dimCols := names dims }, false) := by
  have hfind : dims.find? (fun d => !(Gen.byItemsSkipsIdentified && (names dims).contains d.name) &&
      sameItems (unique (df.column dims.length)) d) = none :=
    List.find?_eq_none.mpr fun d hd => by
      have hmem : (names dims).contains d.name = true :=
        List.contains_iff_mem.mpr (List.mem_map_of_mem (f := (·.name)) hd)
      rw [hmem]
      exact Bool.false_ne_true
  unfold byItemsOne?
  simp only [isDimCol_vcol h, Bool.false_eq_true, if_false, colIdx_value h, hfind]

/-- recognition by items leaves the state as it is at every column -/
theorem byItems_named :
    byItems? dims { df := df, dimCols := names dims } = some { df := df, dimCols := names dims } := by
  unfold byItems?
  rw [foldlM_fixed _ fun cn hcn => ?_]
  · rfl
  rw [h.cols] at hcn
  rcases List.mem_append.mp hcn with hm | hm
  · obtain ⟨n, hn, rfl⟩ := List.mem_map.mp hm
    rw [if_neg Bool.false_ne_true, byItemsOne?_dimCol (isDimCol_str.mpr hn)]
    rfl
  · cases List.mem_singleton.mp hm
    rw [if_neg Bool.false_ne_true, byItemsOne?_vcol h]
    rfl

/-- one value column, which is no dimension's items: the long format -/
theorem valueColumns_named :
    valueColumns? dims { df := df, dimCols := names dims } =
      some ({ df := df, dimCols := names dims }, Format.long (.str vcol)) := by
  unfold valueColumns?
  have hv : df.cols.filter (fun col => !(isDimCol (names dims) col)) = [.str vcol] := by
    have h1 : ((names dims).map Cell.str).filter (fun col => !(isDimCol (names dims) col)) = [] :=
      List.filter_eq_nil_iff.mpr <| List.forall_mem_map.mpr fun n hn => by
        rw [isDimCol_str.mpr hn]; exact Bool.false_ne_true
    rw [h.cols, List.filter_append, h1, List.nil_append, List.filter_cons_of_pos (by rw [isDimCol_vcol h]; rfl),
      List.filter_nil]
  have hfind : dims.find? (sameItems [.str vcol]) = none :=
    List.find?_eq_none.mpr fun d hd => Bool.eq_false_iff.mp (h.vcol_not_items d hd)
  simp only [hv, hfind]

end

/-- every dimension has its column: nothing to fill in -/
theorem missingDims_named (dims : DimSet) (df : DF) :
    missingDims? dims { df := df, dimCols := names dims } = some { df := df, dimCols := names dims } := by
  unfold missingDims?
  have : dims.filter (fun d => !((names dims).contains d.name)) = [] :=
    List.filter_eq_nil_iff.mpr fun d hd hc =>
      not_contains_eq_true_iff.mp hc (List.mem_map_of_mem (f := (·.name)) hd)
  rw [this]; rfl

theorem fromDf_eq {dims : DimSet} (hl : (letters dims).Nodup) (kind : IndexKind) (df : DF) (m e : Bool) :
    fromDf? dims kind df m e = (convert? dims kind df m e).bind (FArr.mk? dims) := by
  simp [fromDf?, hl]

/-! ## the type conversion leaves the cells `to_df` writes as they are -/

theorem convCell_ofItem (dt : DType) (it : Item) (h : it.hasType dt = true) :
    convCell dt (Cell.ofItem it) = some (Cell.ofItem it) := by
  cases it with
  | int i =>
    cases dt with
    | int =>
      show some (Cell.num (((i : Rat).num.tdiv (i : Rat).den : Int) : Rat) false) = _
      rw [Rat.num_intCast, Rat.den_intCast, Int.natCast_one, Int.tdiv_one]
      rfl
    | str => cases h
  | str s =>
    cases dt with
    | int => cases h
    | str => rfl

theorem convLabel_ofItem (d : Dim) (hv : d.valid = true) (it : Item) (hit : it ∈ d.items) :
    convLabel d (Cell.ofItem it) = some (Cell.ofItem it) := by
  unfold convLabel
  cases hdt : d.dtype with
  | none => rfl
  | some dt =>
    -- an item's own cell is never a fractional float
    have hk : keepsLabel (Cell.ofItem it) dt = false := by cases it <;> rfl
    show (if keepsLabel (Cell.ofItem it) dt = true then _ else _) = _
    rw [hk, if_neg Bool.false_ne_true]
    exact convCell_ofItem dt it (hasType_of_valid hv hdt hit)

theorem convLabels_labelsOf (dims : DimSet) (hval : ∀ d ∈ dims, d.valid = true) (idx : List Nat)
    (h : idx ∈ allIdx (shape dims)) :
    (List.zip dims (labelsOf dims idx)).mapM (fun p => convLabel p.1 p.2) = some (labelsOf dims idx) := by
  induction dims generalizing idx with
  | nil => rfl
  | cons d ds ih =>
    obtain ⟨i, hi, r, hr, rfl⟩ := mem_allIdx_cons.mp h
    rw [labelsOf_cons d ds i r hi, List.zip_cons_cons, mapM_cons_eq,
      convLabel_ofItem d (hval d (List.mem_cons_self ..)) _ (List.getElem_mem hi),
      ih (fun d' hd' => hval d' (List.mem_cons_of_mem _ hd')) r hr]
    rfl

/-- the label cells of a row of the exported frame, read column by column and converted -/
theorem row_labels (dims : DimSet) (hval : ∀ d ∈ dims, d.valid = true) (idx : List Nat)
    (hidx : idx ∈ allIdx (shape dims)) (tail : List Cell) :
    (List.zip dims (List.range dims.length)).mapM (fun (p : Dim × Nat) =>
        convLabel p.1 ((labelsOf dims idx ++ tail).getD p.2 .nan)) = some (labelsOf dims idx) := by
  rw [← convLabels_labelsOf dims hval idx hidx]
  conv_rhs => rw [← map_range_getD (labelsOf dims idx) tail .nan, labelsOf_length hidx, List.zip_map_right,
    List.mapM_map]
  rfl

end Flodym.Table
