import Flodym.History
/-!
# C17 — recomputing with parameters that cannot be used

The state machine of a dynamic stock model whose table builds can raise (`tbl p = none`; `stepE` of
`Flodym/History.lean`, of which `step`, the subject of `Props/C17.lean`, is the case where none does).
The arguments of `stepE` after `tbl pdfOf F` are the regenerated flags `resetSf resetPdf discard`, the value
`junk` a failed build would leave behind, and `atomic`; the source has all four flags `true`
(`source_resets_caches` in `Props/C17.lean`; `source_failed_build_discarded`, `source_set_prms_atomic` below). With these, after any sequence of
operations — including reads and computes that failed — a read or `compute` raises exactly when a
freshly built object with the current parameters raises, and gives the fresh results otherwise.
This needs that a failed build leaves nothing in the cache (`Gen.failedBuildDiscarded`, regenerated
from the source; the counterexample is defect D28). Core Lean only.
-/
namespace Flodym.C17
open Flodym.Hist

variable {P T D R : Type}

/-- cached tables, when present, are the tables a fresh object would build from the current parameters -/
def InvE (tbl : P → Option T) (pdfOf : T → T) (s : HState P T D R) : Prop :=
  (∀ t, s.sf = some t → tbl s.prm = some t) ∧
  (∀ t, s.pdf = some t → ∃ sf, tbl s.prm = some sf ∧ t = pdfOf sf)

/-- the invariant says: each cache is empty or holds what a fresh object would build -/
theorem invE_iff {tbl : P → Option T} {pdfOf : T → T} {s : HState P T D R} :
    InvE tbl pdfOf s ↔
      (s.sf = none ∨ s.sf = tbl s.prm) ∧ (s.pdf = none ∨ s.pdf = (tbl s.prm).map pdfOf) := by
  -- a cache `o` that holds nothing but `x` is empty or is `x`
  have key (o x : Option T) : (∀ t, o = some t → x = some t) ↔ o = none ∨ o = x := by
    cases o with
    | none => exact ⟨fun _ => .inl rfl, fun _ _ => nofun⟩
    | some a => exact ⟨fun h => .inr (h a rfl).symm, fun h t e => (h.resolve_left nofun).symm.trans e⟩
  -- the clause for `pdf` is that fact at `x = (tbl s.prm).map pdfOf`
  refine and_congr (key _ _) (Iff.trans ?_ (key _ _))
  exact forall_congr' fun t => imp_congr_right fun _ => by
    rw [Option.map_eq_some_iff]
    exact exists_congr fun sf => and_congr_right fun _ => eq_comm

/-- under the invariant, reading `sf` returns the fresh table and leaves exactly it in the cache -/
theorem ensureSfE_eq (tbl : P → Option T) (pdfOf : T → T) (junk : T) (s : HState P T D R)
    (h : InvE tbl pdfOf s) :
    ensureSfE tbl true junk s = ({ s with sf := tbl s.prm }, tbl s.prm) := by
  obtain ⟨p, sf, pdf, d, r⟩ := s
  unfold ensureSfE
  obtain rfl | rfl : sf = none ∨ sf = tbl p := (invE_iff.1 h).1 <;> cases tbl p <;> rfl

/-- likewise `pdf`, when it is not cached yet -/
theorem ensurePdfE_eq (tbl : P → Option T) (pdfOf : T → T) (junk : T) (s : HState P T D R)
    (h : InvE tbl pdfOf s) (hp : s.pdf = none) :
    ensurePdfE tbl pdfOf true junk s =
      ({ s with sf := tbl s.prm, pdf := (tbl s.prm).map pdfOf }, (tbl s.prm).map pdfOf) := by
  unfold ensurePdfE
  rw [hp, ensureSfE_eq tbl pdfOf junk s h]
  obtain ⟨p, sf, pdf, d, r⟩ := s
  cases hp
  cases tbl p <;> rfl

/-- under the invariant `compute` caches the fresh tables, stores the fresh results if there are any,
and raises iff the table build does -/
theorem computeE_eq (tbl : P → Option T) (pdfOf : T → T) (F : D → T → T → R) (junk : T)
    (s : HState P T D R) (h : InvE tbl pdfOf s) :
    stepE tbl pdfOf F true true true junk true s .compute =
      ({ s with sf := tbl s.prm, pdf := (tbl s.prm).map pdfOf,
                res := (freshE tbl pdfOf F s.prm s.driver).or s.res }, (tbl s.prm).isSome) := by
  rw [stepE, ensureSfE_eq tbl pdfOf junk s h, freshE]
  obtain ⟨p, sf, pdf, d, r⟩ := s
  obtain rfl | rfl : pdf = none ∨ pdf = (tbl p).map pdfOf := (invE_iff.1 h).2 <;> cases tbl p <;> rfl

/-- the sequence of states (whether a call raised does not matter for the next one) -/
def runE (tbl : P → Option T) (pdfOf : T → T) (F : D → T → T → R) (junk : T)
    (ops : List (HOp P D)) (s : HState P T D R) : HState P T D R :=
  ops.foldl (fun s op => (stepE tbl pdfOf F true true true junk true s op).1) s

theorem stepE_inv (tbl : P → Option T) (pdfOf : T → T) (F : D → T → T → R) (junk : T)
    (s : HState P T D R) (op : HOp P D) (h : InvE tbl pdfOf s) :
    InvE tbl pdfOf (stepE tbl pdfOf F true true true junk true s op).1 := by
  cases op with
  | setPrms p => exact invE_iff.2 ⟨.inl rfl, .inl rfl⟩
  | setDriver d => exact h
  | readSf => rw [stepE, ensureSfE_eq tbl pdfOf junk s h]; exact ⟨fun _ e => e, h.2⟩
  | readPdf =>
    rw [stepE]
    cases hp : s.pdf with
    | some t => rw [ensurePdfE, hp]; exact h
    | none => rw [ensurePdfE_eq tbl pdfOf junk s h hp]; exact invE_iff.2 ⟨.inr rfl, .inr rfl⟩
  | compute => rw [computeE_eq tbl pdfOf F junk s h]; exact invE_iff.2 ⟨.inr rfl, .inr rfl⟩
  | setPrmsFailed p' => exact h

theorem runE_inv (tbl : P → Option T) (pdfOf : T → T) (F : D → T → T → R) (junk : T)
    (ops : List (HOp P D)) (s : HState P T D R) (h : InvE tbl pdfOf s) :
    InvE tbl pdfOf (runE tbl pdfOf F junk ops s) :=
  List.foldlRecOn ops _ h fun s hs op _ => stepE_inv tbl pdfOf F junk s op hs

/-- reading the survival table raises exactly when a fresh build raises, and returns the fresh table otherwise -/
theorem readSfE_of_inv (tbl : P → Option T) (pdfOf : T → T) (F : D → T → T → R) (junk : T)
    (s : HState P T D R) (h : InvE tbl pdfOf s) :
    (stepE tbl pdfOf F true true true junk true s .readSf).2 = (tbl s.prm).isSome ∧
    (∀ t, tbl s.prm = some t → (stepE tbl pdfOf F true true true junk true s .readSf).1.sf = some t) := by
  rw [stepE, ensureSfE_eq tbl pdfOf junk s h]; exact ⟨rfl, fun _ e => e⟩

/-- **after any sequence of operations — failed ones included — `compute` raises exactly when a
freshly built stock with the current parameters and driver raises, and otherwise gives its results** -/
theorem computeE_eq_fresh (tbl : P → Option T) (pdfOf : T → T) (F : D → T → T → R) (junk : T)
    (p0 : P) (d0 : D) (ops : List (HOp P D)) :
    let s := runE tbl pdfOf F junk ops { prm := p0, driver := d0 }
    (stepE tbl pdfOf F true true true junk true s .compute).2 = (freshE tbl pdfOf F s.prm s.driver).isSome ∧
    (∀ r, freshE tbl pdfOf F s.prm s.driver = some r →
      (stepE tbl pdfOf F true true true junk true s .compute).1.res = some r) := by
  intro s
  rw [computeE_eq tbl pdfOf F junk s (runE_inv tbl pdfOf F junk ops _ (invE_iff.2 ⟨.inl rfl, .inl rfl⟩)), freshE]
  cases tbl s.prm with
  | none => exact ⟨rfl, fun _ => nofun⟩
  | some sf => exact ⟨rfl, fun _ e => e⟩

/-- where every build succeeds the machine is `step` of `Flodym/History.lean` -/
theorem stepE_total (tbl : P → T) (pdfOf : T → T) (F : D → T → T → R) (junk : T) (b1 b2 d : Bool)
    (s : HState P T D R) (op : HOp P D) (hop : ∀ p', op ≠ .setPrmsFailed p') :
    (stepE (fun p => some (tbl p)) pdfOf F b1 b2 d junk true s op) = (step tbl pdfOf F b1 b2 s op, true) := by
  obtain ⟨p, sf, pdf, dr, r⟩ := s
  cases op with
  | setPrmsFailed p' => exact absurd rfl (hop p')
  | setPrms p => rfl
  | setDriver d => rfl
  | readSf => cases sf <;> rfl
  | _ => cases sf <;> cases pdf <;> rfl

/-- a `set_prms` that raises changes nothing — parameters, tables and results are what they were —
and reports the failure -/
theorem failed_setPrms_changes_nothing (tbl : P → Option T) (pdfOf : T → T) (F : D → T → T → R) (junk : T)
    (s : HState P T D R) (p' : P) :
    stepE tbl pdfOf F true true true junk true s (.setPrmsFailed p') = (s, false) := rfl

/-- the code as it stands converts every value before it stores any (regenerated from the source) -/
theorem source_set_prms_atomic : Gen.setPrmsAtomic = true := by decide

/-- D32 (fixed): if the first parameter were stored before the second one is converted, a failed
`set_prms` would leave new parameters next to the tables of the old ones — the next `compute`
returns the old results while a fresh object with the current parameters gives other ones -/
theorem partial_set_prms_counterexample :
    let tbl : Nat → Option Nat := some
    let st := stepE (D := Unit) (R := Nat) tbl id (fun _ sf _ => sf) true true true 0 false
    let s1 := (st { prm := 3, driver := () } .compute).1
    let s2 := (st s1 (.setPrmsFailed 7)).1
    let s3 := st s2 .compute
    s2.prm = 7 ∧ s3.1.res = some 3 ∧ freshE tbl id (fun (_ : Unit) sf _ => sf) s2.prm s2.driver = some 7 := by decide

/-- the code as it stands keeps nothing of a failed build (regenerated from the source) -/
theorem source_failed_build_discarded : Gen.failedBuildDiscarded = true := by decide

/-- D28 (fixed): if the half-built table stayed in the cache, the first read of the survival table
would raise and the second one would return the zeros — while a fresh object raises -/
theorem kept_failed_build_counterexample :
    let tbl : Nat → Option Nat := fun p => if p = 0 then none else some p
    let st := stepE (D := Unit) (R := Nat) tbl id (fun _ sf _ => sf) true true false 0 true
    let s1 := st { prm := 0, driver := () } .readSf
    let s2 := st s1.1 .readSf
    s1.2 = false ∧ s2.2 = true ∧ s2.1.sf = some 0 ∧ tbl 0 = none := by decide

/-- non-vacuity: a history with a failed read in the middle and usable parameters afterwards -/
example :
    let tbl : Nat → Option Nat := fun p => if p = 0 then none else some p
    let s := runE (D := Unit) (R := Nat) tbl id (fun _ sf _ => sf) 0
      [.compute, .setPrms 0, .readSf, .compute, .setPrms 5] { prm := 3, driver := () }
    s.prm = 5 ∧ s.res = some 3 ∧ s.sf = none ∧
    (stepE tbl id (fun _ sf _ => sf) true true true 0 true s .compute).2 = true ∧
    (stepE tbl id (fun _ sf _ => sf) true true true 0 true s .compute).1.res = some 5 := by
  decide +kernel

end Flodym.C17
