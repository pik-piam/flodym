import FlodymProofs.Lemmas.Shares
/-!
# C07 — summing, casting and shares conserve totals and act by label

Arbitrary dimension lists / storage orders / lengths; values in a commutative monoid, semiring or
field as stated. `margin x L e` = x summed over its dimensions not in `L`; `total x e` = sum of
all entries.
-/
namespace Flodym.C07
open Flodym DimSet

variable {α : Type}

/-- `sum_to(requested)` returns exactly the marginal sums by label, over the requested dimensions
in the requested order. `ks` may name each dimension by letter, name or `Dimension` object. -/
theorem sumTo_marginals [AddCommMonoid α] (x : FArr α) (hx : WF x) (hn : NamesOk x.dims)
    (hnames : (names x.dims).Nodup) (ds : List Dim) (hds : ∀ d ∈ ds, d ∈ x.dims)
    (hnd : (letters ds).Nodup) (ks : List FArr.DimKey) (hks : KeysFor ds ks) :
    ∃ r, x.sumTo? ks = some r ∧ r.dims = ds ∧ WF r ∧ ∀ e, r.at e = margin x (letters ds) e :=
  sumTo_spec x hx hn ds hds hnd ks (tupleToLetters?_forms x hx.1 hnames hn ds hds ks hks)

/-- `sum_over(summed)`: the remaining dimensions in x's order, marginal sums by label -/
theorem sumOver_marginals [AddCommMonoid α] (x : FArr α) (hx : WF x) (hn : NamesOk x.dims)
    (hnames : (names x.dims).Nodup) (so : List Dim) (hso : ∀ d ∈ so, d ∈ x.dims)
    (ks : List FArr.DimKey) (hks : KeysFor so ks) :
    ∃ r, x.sumOver? ks = some r ∧
      r.dims = x.dims.filter (fun d => !((letters so).contains d.letter)) ∧ WF r ∧
      ∀ e, r.at e = margin x r.letters e :=
  (sumOver?_spec x hx hn so hso ks (tupleToLetters?_forms x hx.1 hnames hn so hso ks hks)).own_letters
    (f := margin x)

/-- the grand total is preserved by `sum_to` -/
theorem grand_total_preserved [AddCommMonoid α] (x : FArr α) (hx : WF x) (hn : NamesOk x.dims)
    (hnames : (names x.dims).Nodup) (ds : List Dim) (hds : ∀ d ∈ ds, d ∈ x.dims)
    (hnd : (letters ds).Nodup) (ks : List FArr.DimKey) (hks : KeysFor ds ks) :
    ∃ r, x.sumTo? ks = some r ∧ ∀ e, total r e = total x e := by
  obtain ⟨r, h1, h2, _, h4⟩ := sumTo_marginals x hx hn hnames ds hds hnd ks hks
  refine ⟨r, h1, fun e => ?_⟩
  -- both totals are marginals that keep nothing, and `r` holds the marginals of `x` onto `ds`
  rw [total_eq_margin, total_eq_margin, margin, h2, funext h4]
  exact margin_of_margin x hx ds hds hnd [] (fun _ h => absurd h List.not_mem_nil) e

/-- unknown dimensions are rejected (by `sum_to` and by `sum_over`) -/
theorem sumTo_unknown_rejected [AddCommMonoid α] (x : FArr α) (ks : List FArr.DimKey) (key : String)
    (hk : .str key ∈ ks) (h : ∀ d ∈ x.dims, d.name ≠ key ∧ d.letter.toString ≠ key) :
    x.sumTo? ks = none := by
  unfold FArr.sumTo?
  rw [tupleToLetters?_unknown x ks key hk h]; rfl

theorem sumOver_unknown_rejected [AddCommMonoid α] (x : FArr α) (ks : List FArr.DimKey) (key : String)
    (hk : .str key ∈ ks) (h : ∀ d ∈ x.dims, d.name ≠ key ∧ d.letter.toString ≠ key) :
    x.sumOver? ks = none := by
  unfold FArr.sumOver?
  rw [tupleToLetters?_unknown x ks key hk h]; rfl

/-- `cumsum(letter)` accumulates along that dimension, in item order -/
theorem cumsum_along_letter [AddCommMonoid α] (x : FArr α) (hx : WF x) (l : Char) (hl : l ∈ x.letters) :
    ∃ r, x.cumsum? l = some r ∧ r.dims = x.dims ∧ WF r ∧
      ∀ e, r.at e = ∑ i ∈ Finset.range (e l + 1), x.at (e.set l i) :=
  (cumsum_spec x hx l hl).congr fun _ => sumRange_eq _ _

theorem cumsum_unknown_rejected [AddCommMonoid α] (x : FArr α) (l : Char) (hl : l ∉ x.letters) :
    x.cumsum? l = none :=
  if_neg fun h => hl (List.idxOf_lt_length_iff.mp h)

/-- `cast_to(target)` replicates every entry along the added dimensions, in the target's order -/
theorem castTo_replicates [AddCommMonoid α] (x : FArr α) (T : DimSet) (hx : WF x)
    (hT : (letters T).Nodup) (hc : Compatible x.dims T) (hsub : ∀ l ∈ x.letters, l ∈ letters T) :
    ∃ r, x.castTo? T = some r ∧ r.dims = T ∧ WF r ∧ ∀ e, Valid T e → r.at e = x.at e :=
  castTo_spec x T hx hT hc hsub

/-- … and refuses a target that lacks a source dimension -/
theorem castTo_refuses [AddCommMonoid α] (x : FArr α) (T : DimSet) (h : ∃ l ∈ x.letters, l ∉ letters T) :
    x.castTo? T = none := by
  unfold FArr.castTo? FArr.castValuesTo?
  rw [all_contains_eq_false.mpr h]; rfl

/-- summing a cast array back gives the original times the number of added label combinations -/
theorem sum_back [Semiring α] (x : FArr α) (T : DimSet) (hx : WF x) (hT : (letters T).Nodup)
    (hc : Compatible x.dims T) (hsub : ∀ l ∈ x.letters, l ∈ letters T) :
    ∃ r, x.castTo? T = some r ∧
      ∀ e, Valid T e → margin r x.letters e = (addedCount x T : α) * x.at e := by
  obtain ⟨r, h1, h2, _, h4⟩ := castTo_spec x T hx hT hc hsub
  exact ⟨r, h1, fun e hv => margin_castTo x r T hT h2 h4 e hv⟩

/-- `get_shares_over`: each entry divided by the total over the given dimensions; multiplying back
restores the array and the shares add up to one wherever that total is non-zero -/
theorem shares_partial [Field α] (x : FArr α) (hx : WF x) (hn : NamesOk x.dims) (so : DimSet)
    (hso : ∀ d ∈ so, d ∈ x.dims)
    (hnotall : x.letters.all (fun l => (letters so).contains l) = false) :
    ∃ r, x.getSharesOver? (letters so) = some r ∧ r.dims = x.dims ∧ WF r ∧
      ∀ e, let tot := margin x (x.letters.filter (fun l => !((letters so).contains l))) e
        tot ≠ 0 →
          r.at e = x.at e / tot ∧ r.at e * tot = x.at e ∧
          sumOver (summedOf x.dims (x.letters.filter (fun l => !((letters so).contains l)))) r.at e = 1 := by
  obtain ⟨r, h1, h2, h3, h4⟩ := shares_partial_spec x hx hn so hso hnotall
  exact ⟨r, h1, h2, h3, fun e => shares_of_ratio x r _ h4 e⟩

theorem shares_all [Field α] (x : FArr α) (hx : WF x) (ls : List Char)
    (hsub : ls.all (fun l => x.letters.contains l) = true)
    (hall : x.letters.all (fun l => ls.contains l) = true) :
    ∃ r, x.getSharesOver? ls = some r ∧ r.dims = x.dims ∧ WF r ∧
      ∀ e, total x e ≠ 0 →
        r.at e = x.at e / total x e ∧ r.at e * total x e = x.at e ∧ total r e = 1 := by
  obtain ⟨r, h1, h2, h3, h4⟩ := shares_all_spec x hx ls hsub hall
  refine ⟨r, h1, h2, h3, fun e => ?_⟩
  rw [total_eq_margin r, margin, h2, total_eq_margin x]
  exact shares_of_ratio x r [] h4 e

/-- `get_shares_over` needs the given dimensions to be dimensions of the array -/
theorem shares_foreign_rejected [Field α] (x : FArr α) (ls : List Char) (h : ∃ l ∈ ls, l ∉ x.letters) :
    x.getSharesOver? ls = none := by
  unfold FArr.getSharesOver?
  rw [all_contains_eq_false.mpr h]; rfl

/-! ### hypotheses are satisfiable -/
def dA : Dim := { letter := 'a', name := "aa", items := [.int 1, .int 2] }
def dB : Dim := { letter := 'b', name := "bb", items := [.str "x", .str "y", .str "z"] }
def exX : FArr Int := ⟨[dB, dA], ND.ofFlat [3, 2] #[1, 2, 3, 4, 5, 6] 0⟩

example : WF exX ∧ NamesOk exX.dims ∧ (names exX.dims).Nodup ∧ (∀ d ∈ [dA], d ∈ exX.dims)
    ∧ Compatible exX.dims [dA, dB] := by decide +kernel
example : KeysFor [dA, dB] [.str "a", .str "bb"] :=
  .cons .letter (.cons .name .nil)

end Flodym.C07
