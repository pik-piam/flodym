import FlodymProofs.Props.C17Failing
/-!
# C17 — recomputing a stock reflects its current inputs only

For every sequence of {set_prms, set driver, read sf, read pdf, compute}: after a `compute` the
results equal those of a freshly built stock with the same parameters and driver. The invariant:
a cached table is either absent or the table of the *current* parameters — which holds because
`set_prms` discards both caches (`Gen.setPrmsResetsSf`, `Gen.setPrmsResetsPdf`, regenerated from the
source on every run; the counterexample theorem shows what happens otherwise, defect D4).
Proved once, for the machine whose table builds can fail (`C17Failing`): this one is that machine
where no build fails (`step_eq_stepE`), and `Inv` is its invariant `InvE` (`invE_iff`). Core Lean only.
-/
namespace Flodym.C17
open Flodym.Hist

variable {P T D R : Type}

/-- cached tables, when present, belong to the current parameters -/
def Inv (tbl : P → T) (pdfOf : T → T) (s : HState P T D R) : Prop :=
  (s.sf = none ∨ s.sf = some (tbl s.prm)) ∧ (s.pdf = none ∨ s.pdf = some (pdfOf (tbl s.prm)))

/-- the machine of this file is the one with failing builds, run where no build fails -/
theorem step_eq_stepE (tbl : P → T) (pdfOf : T → T) (F : D → T → T → R) (junk : T) (b1 b2 d : Bool)
    (s : HState P T D R) (op : HOp P D) :
    step tbl pdfOf F b1 b2 s op = (stepE (fun p => some (tbl p)) pdfOf F b1 b2 d junk true s op).1 := by
  cases op with
  | setPrmsFailed p' => rfl
  | _ => rw [stepE_total]; nofun

theorem run_eq_runE (tbl : P → T) (pdfOf : T → T) (F : D → T → T → R) (junk : T) (ops : List (HOp P D))
    (s : HState P T D R) :
    ops.foldl (step tbl pdfOf F true true) s = runE (fun p => some (tbl p)) pdfOf F junk ops s :=
  congrArg (ops.foldl · s) (funext fun s => funext (step_eq_stepE tbl pdfOf F junk true true true s))

/-- **after any sequence of operations, `compute` gives what a freshly built stock with the
current parameters and driver gives** -/
theorem compute_eq_fresh (tbl : P → T) (pdfOf : T → T) (F : D → T → T → R) (p0 : P) (d0 : D)
    (ops : List (HOp P D)) :
    let s := ops.foldl (step tbl pdfOf F true true) { prm := p0, driver := d0 }
    (step tbl pdfOf F true true s .compute).res = some (fresh tbl pdfOf F s.prm s.driver) := by
  rw [run_eq_runE tbl pdfOf F (tbl p0)]; intro s
  rw [step_eq_stepE tbl pdfOf F (tbl p0) true true true]
  exact (computeE_eq_fresh _ pdfOf F (tbl p0) p0 d0 ops).2 _ rfl

/-- calling `compute` twice in a row changes nothing -/
theorem compute_idempotent (tbl : P → T) (pdfOf : T → T) (F : D → T → T → R) (s : HState P T D R)
    (h : Inv tbl pdfOf s) :
    (step tbl pdfOf F true true (step tbl pdfOf F true true s .compute) .compute).res
      = (step tbl pdfOf F true true s .compute).res := by
  rw [step_eq_stepE tbl pdfOf F (tbl s.prm) true true true s, computeE_eq (fun p => some (tbl p)) pdfOf F _ s (invE_iff.2 h),
    step_eq_stepE tbl pdfOf F (tbl s.prm) true true true, computeE_eq _ pdfOf F _ _ (invE_iff.2 ⟨.inr rfl, .inr rfl⟩)]
  rfl

/-- the code as it stands discards both caches in every `set_prms` (regenerated from the source) -/
theorem source_resets_caches : Gen.setPrmsResetsSf = true ∧ Gen.setPrmsResetsPdf = true := by decide

/-- D4 (fixed): if `set_prms` kept the caches, a recompute after changing the parameters would reuse
the stale table — a concrete counterexample with tables = parameters, results = table -/
theorem stale_cache_counterexample :
    let tbl : Nat → Nat := id
    let s := [HOp.compute, HOp.setPrms 7, HOp.compute].foldl
      (step (D := Unit) tbl id (fun _ sf _ => sf) false false) { prm := 3, driver := () }
    s.res = some 3 ∧ fresh tbl id (fun (_ : Unit) sf _ => sf) s.prm s.driver = 7 := by decide

end Flodym.C17
