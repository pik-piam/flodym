import FlodymProofs.Props.C09
/-!
# C10 — inflow-driven and stock-driven models are inverse; both solvers agree

`hd : sf t t j ≠ 0` is "every cohort has a non-vanishing share surviving its first interval".
The LAPACK solver (`scipy.linalg.solve_triangular`) is modelled by its specification: it returns a
solution of the lower-triangular system; `lapack_eq_manual` shows that any such solution is the one
the manual forward substitution computes.
-/
open Finset BigOperators
namespace Flodym.C10
open Flodym Flodym.DSM

variable {K : Type} [Field K]

/-- the triangular system the stock-driven model solves, for the whole-period inflow `x` -/
def SolvesSystem (n : Nat) (stock : Nat → Nat → K) (sf : Nat → Nat → Nat → K) (x : Nat → Nat → K) (j : Nat) : Prop :=
  ∀ t, t < n → ∑ c ∈ range (t + 1), sf t c j * x c j = stock t j

/-- 'manual' = what 'lapack' is specified to return -/
theorem lapack_eq_manual (n : Nat) (stock : Nat → Nat → K) (sf : Nat → Nat → Nat → K)
    (hd : ∀ t j, t < n → sf t t j ≠ 0) (x : Nat → Nat → K) (j : Nat) (hx : SolvesSystem n stock sf x j) :
    ∀ t, t < n → x t j = sdInflowWP n stock sf t j :=
  solution_unique n stock sf hd x j hx

theorem manual_solves_system (n : Nat) (stock : Nat → Nat → K) (sf : Nat → Nat → Nat → K)
    (hd : ∀ t j, t < n → sf t t j ≠ 0) (j : Nat) : SolvesSystem n stock sf (sdInflowWP n stock sf) j :=
  fun t ht => manual_solves n stock sf hd t j ht

/-- feeding the stock computed by an inflow-driven model into a stock-driven model with the same
survival table returns the original inflow … -/
theorem stockDriven_of_inflowDriven_inflow (it : Nat → K) (n : Nat) (inflow : Nat → Nat → K)
    (sf : Nat → Nat → Nat → K) (hlt : LowerTri sf) (hd : ∀ t j, t < n → sf t t j ≠ 0)
    (hdt : ∀ t, t < n → dt it n t ≠ 0) (t j : Nat) (ht : t < n) :
    (stockDriven it n (inflowDriven it n inflow sf).stock sf).inflow t j = inflow t j := by
  have hsys : SolvesSystem n (inflowDriven it n inflow sf).stock sf (fun c j => inflow c j * dt it n c) j :=
    fun s hs => (inflowDriven_stock_tri it n inflow sf hlt s j hs).symm
  have huniq := lapack_eq_manual n _ sf hd _ j hsys t ht
  have hwp := C03.stockDriven_inflow_wp it n (inflowDriven it n inflow sf).stock sf hdt t j ht
  exact mul_right_cancel₀ (hdt t ht) (hwp.trans huniq.symm)

/-- … and the same outflow and cohort tables -/
theorem stockDriven_of_inflowDriven_tables (it : Nat → K) (n : Nat) (inflow : Nat → Nat → K)
    (sf : Nat → Nat → Nat → K) (hlt : LowerTri sf) (hd : ∀ t j, t < n → sf t t j ≠ 0)
    (hdt : ∀ t, t < n → dt it n t ≠ 0) (t j : Nat) :
    let a := inflowDriven it n inflow sf
    let b := stockDriven it n a.stock sf
    b.outflow t j = a.outflow t j ∧
    ∀ c, c < n → b.stockByCohort t c j = a.stockByCohort t c j ∧
                 b.outflowByCohort t c j = a.outflowByCohort t c j := by
  have hin : ∀ c, c < n → (stockDriven it n (inflowDriven it n inflow sf).stock sf).inflow c j = inflow c j :=
    fun c hc => stockDriven_of_inflowDriven_inflow it n inflow sf hlt hd hdt c j hc
  simp only [C03.stockDriven_outflow, C09.stockDriven_sbc, C09.stockDriven_obc, inflowDriven_outflow,
    inflowDriven_sbc, inflowDriven_obc]
  exact ⟨sum_congr rfl fun c hc => by rw [hin c (mem_range.1 hc)], fun c hc => by rw [hin c hc]; exact ⟨rfl, rfl⟩⟩

/-- conversely, driving an inflow-driven model with the inflow found by a stock-driven model
reproduces the prescribed stock (also when that inflow is negative somewhere) -/
theorem inflowDriven_of_stockDriven (it : Nat → K) (n : Nat) (stock : Nat → Nat → K)
    (sf : Nat → Nat → Nat → K) (hlt : LowerTri sf) (hd : ∀ t j, t < n → sf t t j ≠ 0)
    (hdt : ∀ t, t < n → dt it n t ≠ 0) (t j : Nat) (ht : t < n) :
    (inflowDriven it n (stockDriven it n stock sf).inflow sf).stock t j = stock t j := by
  rw [inflowDriven_stock]
  exact C03.stockDriven_reproduces_stock it n stock sf hlt hd hdt t j ht

end Flodym.C10
