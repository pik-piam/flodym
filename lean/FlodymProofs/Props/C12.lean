import FlodymProofs.Lemmas.Table
/-!
# C12 — data import refuses incomplete or inconsistent data unless told otherwise

The decision logic of the last stage of the converter (`_check_data_complete`, model
`Flodym.Table.complete?`) for *every* long table, and what the two flags change. The stages before
it (recognising columns) are covered by C11's theorems and the `table` correspondence stream.
-/
namespace Flodym.C12
open Flodym Flodym.Table DimSet

/-- **exactly when the last stage returns, and what**: no duplicated label combination; the rows
that are kept (all of them, which must then carry known items; or with `allow_extra_values` those
that do) are, unless `allow_missing_values`, as many as the array has entries and all carry a value;
the array then holds, at every position some row's labels have, the value of the last such row (zero
for an empty one; `C11.entry_from_unique_row`: among rows with one label per dimension there is only
one), and zero elsewhere -/
theorem complete?_eq_some {dims : DimSet} {t : LongTable} {m e : Bool} {v : ND Rat} :
    complete? dims t m e = some v ↔
      hasDuplicates (t.rows.map (·.1)) = false ∧ ∃ kept, keepRows? dims t.rows e = some kept ∧
        (m = true ∨ (kept.length = (shape dims).prod ∧ ∀ r ∈ kept, r.2 ≠ none)) ∧
        v = { shape := shape dims, get := placedGet (placed dims t.rows) } := by
  unfold complete?
  cases hasDuplicates (t.rows.map (·.1))
  · rw [if_neg Bool.false_ne_true]
    constructor
    · intro h
      obtain ⟨kept, hk, h⟩ := Option.bind_eq_some_iff.mp h
      obtain ⟨filled, hf, rfl⟩ := Option.map_eq_some_iff.mp h
      obtain ⟨hm, rfl⟩ := fillRows?_eq_some.mp hf
      exact ⟨rfl, kept, hk, hm, by rw [placeRows_kept hk]⟩
    · rintro ⟨_, kept, hk, hm, rfl⟩
      rw [hk, Option.bind_some, fillRows?_eq_some.mpr ⟨hm, rfl⟩, Option.map_some, placeRows_kept hk]
  · exact iff_of_false nofun fun h => nomatch h.1

/-- a refusal is the failure of one of the conditions of `complete?_eq_some` -/
theorem complete?_eq_none (dims : DimSet) (t : LongTable) (m e : Bool)
    (h : hasDuplicates (t.rows.map (·.1)) = false → ∀ kept, keepRows? dims t.rows e = some kept →
      ¬ (m = true ∨ (kept.length = (shape dims).prod ∧ ∀ r ∈ kept, r.2 ≠ none))) :
    complete? dims t m e = none := by
  refine Option.eq_none_iff_forall_ne_some.mpr fun v hv => ?_
  obtain ⟨hd, kept, hk, hm, _⟩ := complete?_eq_some.mp hv
  exact h hd kept hk hm

/-- **a duplicated label combination is refused, whatever the flags** -/
theorem duplicate_refused (dims : DimSet) (t : LongTable) (m e : Bool)
    (h : hasDuplicates (t.rows.map (·.1)) = true) : complete? dims t m e = none :=
  complete?_eq_none dims t m e fun hd => by rw [h] at hd; cases hd

/-- **an item unknown to its dimension is refused** (default `allow_extra_values=False`) -/
theorem unknown_item_refused (dims : DimSet) (t : LongTable) (m : Bool) (r : List Cell × Option Rat)
    (hr : r ∈ t.rows) (hu : rowKnown dims r.1 = false) : complete? dims t m false = none :=
  complete?_eq_none dims t m false fun _ kept hk => by
    rcases (keepRows?_eq_some.mp hk).1 with h | h
    · cases h
    · rw [h r hr] at hu; cases hu

/-- **a missing label combination is refused** (default `allow_missing_values=False`): fewer (or
more) rows than the array has entries, after the rows with unknown items were dealt with -/
theorem missing_refused (dims : DimSet) (t : LongTable) (e : Bool) (rows : List (List Cell × Option Rat))
    (hk : keepRows? dims t.rows e = some rows) (hlen : rows.length ≠ (shape dims).prod) :
    complete? dims t false e = none :=
  complete?_eq_none dims t false e fun _ kept hk' => by
    cases hk.symm.trans hk'
    exact fun h => h.elim Bool.false_ne_true fun h => hlen h.1

/-- **an empty / NaN value is refused** (default `allow_missing_values=False`) -/
theorem nan_refused (dims : DimSet) (t : LongTable) (e : Bool) (rows : List (List Cell × Option Rat))
    (hk : keepRows? dims t.rows e = some rows) (r : List Cell × Option Rat) (hr : r ∈ rows) (hn : r.2 = none) :
    complete? dims t false e = none :=
  complete?_eq_none dims t false e fun _ kept hk' => by
    cases hk.symm.trans hk'
    exact fun h => h.elim Bool.false_ne_true fun h => h.2 r hr hn

/-- **exactly when the import succeeds**: no duplicated label combination; the rows that are kept
(all of them, which must then carry known items; or with `allow_extra_values` those that do) are,
unless `allow_missing_values`, as many as the array has entries and all carry a value -/
theorem success_iff (dims : DimSet) (t : LongTable) (m e : Bool) :
    (complete? dims t m e).isSome = true ↔
      hasDuplicates (t.rows.map (·.1)) = false ∧
      ∃ kept, keepRows? dims t.rows e = some kept ∧
        (m = true ∨ (kept.length = (shape dims).prod ∧ ∀ r ∈ kept, r.2 ≠ none)) := by
  rw [Option.isSome_iff_exists]
  constructor
  · rintro ⟨v, h⟩
    obtain ⟨hd, k, hk, hm, _⟩ := complete?_eq_some.mp h
    exact ⟨hd, k, hk, hm⟩
  · rintro ⟨hd, k, hk, hm⟩
    exact ⟨_, complete?_eq_some.mpr ⟨hd, k, hk, hm, rfl⟩⟩

/-- **`allow_extra_values` ignores the rows carrying unknown items and changes nothing else**: the
result is that of the table without those rows -/
theorem allow_extra_ignores_unknown_rows (dims : DimSet) (t : LongTable) (m : Bool)
    (hd : hasDuplicates (t.rows.map (·.1)) = false)
    (hd' : hasDuplicates ((t.rows.filter fun r => rowKnown dims r.1).map (·.1)) = false) :
    complete? dims t m true = complete? dims { rows := t.rows.filter fun r => rowKnown dims r.1 } m false := by
  -- both calls hand on the rows with known items
  have h1 : keepRows? dims t.rows true = some (t.rows.filter fun r => rowKnown dims r.1) := rfl
  have h2 : keepRows? dims (t.rows.filter fun r => rowKnown dims r.1) false =
      some (t.rows.filter fun r => rowKnown dims r.1) :=
    keepRows?_eq_some.mpr ⟨.inr fun r hr => (List.mem_filter.mp hr).2,
      List.filter_eq_self.mpr fun r hr => (List.mem_filter.mp hr).2⟩
  unfold complete?
  rw [hd, hd', if_neg Bool.false_ne_true, if_neg Bool.false_ne_true, h1, h2]

/-- **`allow_missing_values`: empty values become zero** (and nothing is refused for being absent) -/
theorem allow_missing_fills_zero (dims : DimSet) (rows : List (List Cell × Option Rat)) :
    fillRows? dims rows true = some (rows.map fun r => (r.1, r.2.getD 0)) :=
  fillRows?_eq_some.mpr ⟨.inl rfl, rfl⟩

/-- without the flag, a complete table keeps its values as they are -/
theorem default_keeps_values (dims : DimSet) (rows : List (List Cell × Rat)) (h : rows.length = (shape dims).prod) :
    fillRows? dims (rows.map fun r => (r.1, some r.2)) false = some rows := by
  refine fillRows?_eq_some.mpr
    ⟨.inr ⟨(List.length_map _).trans h, List.forall_mem_map.mpr fun _ _ => nofun⟩, ?_⟩
  rw [List.map_map]
  exact List.map_id'' (fun _ => rfl) rows

/-- **a refused `set_values_from_df` leaves no partially filled array behind**: the converter runs to
completion before anything is written; on success the dimensions stay and the values have their shape -/
theorem setValuesFromDf_all_or_nothing (x : FArr Rat) (k : IndexKind) (df : DF) (m e : Bool) :
    (setValuesFromDf? x k df m e = none ∧ convert? x.dims k df m e = none) ∨
    ∃ v, convert? x.dims k df m e = some v ∧ setValuesFromDf? x k df m e = some { x with values := v } := by
  unfold setValuesFromDf?
  cases h : convert? x.dims k df m e with
  | none => left; exact ⟨rfl, rfl⟩
  | some v => right; exact ⟨v, rfl, rfl⟩

/-! ## non-vacuity -/

def exDims : DimSet :=
  [{ letter := 't', name := "time", items := [.int 2000, .int 2001], dtype := some .int },
   { letter := 'r', name := "region", items := [.str "EU", .str "NA"], dtype := some .str }]

def exRows : List (List Cell × Option Rat) :=
  [([.num 2000 false, .str "EU"], some 1), ([.num 2001 false, .str "EU"], some 2),
   ([.num 2000 false, .str "NA"], some 3), ([.num 2001 false, .str "NA"], some 4)]

example : (complete? exDims { rows := exRows } false false).map (fun v => (allIdx v.shape).map v.get)
    = some [1, 3, 2, 4] := by decide +kernel
example : complete? exDims { rows := exRows.take 3 } false false = none := by decide +kernel
example : (complete? exDims { rows := exRows.take 3 } true false).map (fun v => (allIdx v.shape).map v.get)
    = some [1, 3, 2, 0] := by decide +kernel
example : complete? exDims { rows := exRows ++ [([.num 2000 false, .str "EU"], some 9)] } true true = none := by
  decide +kernel
example : (complete? exDims { rows := exRows ++ [([.num 1999 false, .str "EU"], some 9)] } false true).map
    (fun v => (allIdx v.shape).map v.get) = some [1, 3, 2, 4] := by decide +kernel

end Flodym.C12
