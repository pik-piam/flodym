import FlodymProofs.Props.C11
import FlodymProofs.Lemmas.TableStages
/-!
# C11 (continued) — the whole converter on the named long layout

`convert_named_long`: for a frame with one column per dimension, labelled with the dimensions' names,
and one value column (the frame `to_df` writes, dimensions in the index or in columns, any value
column name, any rows), every stage before the placement does nothing surprising: the converter is
the placement stage applied to the frame's own columns. Together with the placement theorems this
gives the round trip for that layout end to end.
-/
namespace Flodym.C11
open Flodym Flodym.Table DimSet

/-- **the whole converter on a frame in the named long layout is the placement stage applied to the
frame's own columns** (dimensions in the index — `named k` — or in columns — `range`); with the
placement theorems of `Props/C11.lean` and `Props/C12.lean`: every entry from the unique row carrying
its labels, refusal of duplicates / unknown items / missing rows / empty values, any row order -/
theorem convert_named_long (dims : DimSet) (df : DF) (vcol : String) (h : NamedLong dims df vcol)
    (kind : IndexKind) (hk : kind = .range ∨ ∃ k, kind = .named k) (m e : Bool) :
    convert? dims kind df m e =
      (toLong? dims { df := df, dimCols := names dims } (.str vcol)).bind fun t => complete? dims t m e := by
  unfold convert?
  have hr : resetIndex kind df = df := by
    rcases hk with rfl | ⟨k, rfl⟩ <;> rfl
  simp only [hr, byNameOrLetter_named h, firstRow_named h, byItems_named h, valueColumns_named h, missingDims_named,
    Option.bind_eq_bind, Option.bind_some]

/-! ## end to end: `from_df(dims, x.to_df())` for the named long layout -/

/-- **the type conversion on any frame in the named long layout**: the dimension columns are the
leading ones, in order, the value column the last; each row is converted by itself -/
theorem toLong_named (dims : DimSet) (df : DF) (vcol : String) (h : NamedLong dims df vcol) (hnd : (names dims).Nodup) :
    toLong? dims { df := df, dimCols := names dims } (.str vcol) =
      (df.rows.mapM fun r =>
        ((List.zip dims (List.range dims.length)).mapM fun p => convLabel p.1 (r.getD p.2 .nan)).bind fun labels =>
          (valueOfCell? (r.getD dims.length .nan)).bind fun v => some (labels, v)).bind fun rows => some { rows := rows } := by
  unfold toLong?
  simp only [Option.bind_eq_bind, colIdx_names h hnd, colIdx_value h, Option.bind_some]

/-- the frame `to_df` writes (dense or sparse), read column by column, is the table of the listed entries -/
theorem toLong_toDfLong (x : FArr Rat) (s : Bool) (h : NamedLong x.dims (toDfLong x s) "value")
    (hnd : (names x.dims).Nodup) (hval : ∀ d ∈ x.dims, d.valid = true) :
    toLong? x.dims { df := toDfLong x s, dimCols := names x.dims } (.str "value") = some (rowsAt x (listed x s)) := by
  rw [toLong_named _ _ _ h hnd, toDf_rows, List.mapM_map,
    mapM_eq_some_map (g := fun idx => (labelsOf x.dims idx, some (x.values.get idx)))]
  · rfl
  · intro idx hidx
    have hidx := (List.mem_filter.mp hidx).1
    have hv : (labelsOf x.dims idx ++ [Cell.num (x.values.get idx) true]).getD x.dims.length .nan
        = Cell.num (x.values.get idx) true := by
      rw [← labelsOf_length hidx, List.getD_eq_getElem?_getD, List.getElem?_concat_length, Option.getD_some]
    rw [Function.comp_apply, row_labels x.dims hval idx hidx, Option.bind_some, hv]
    rfl

/-- **`from_df(dims, x.to_df(sparse=s), allow_missing_values=s)` returns `x`**, `s` either way -/
theorem roundtrip_toDfLong (x : FArr Rat) (hx : WF x) (hne : x.dims ≠ []) (hn : NamesOk x.dims)
    (hnd : (names x.dims).Nodup) (hval : ∀ d ∈ x.dims, d.valid = true) (hit : ∀ d ∈ x.dims, d.items.Nodup)
    (hvn : "value" ∉ names x.dims) (hvi : ∀ d ∈ x.dims, sameItems [.str "value"] d = false)
    (kind : IndexKind) (hk : kind = .range ∨ ∃ k, kind = .named k) (s : Bool) :
    ∃ y, fromDf? x.dims kind (toDfLong x s) s false = some y ∧ y.dims = x.dims ∧
      y.values.shape = shape x.dims ∧ ∀ idx ∈ allIdx (shape x.dims), y.values.get idx = x.values.get idx := by
  have hnl : NamedLong x.dims (toDfLong x s) "value" :=
    { cols := rfl, nonempty := hne, namesOk := hn, vcol_not_name := hvn,
      vcol_not_letter := fun d _ heq => absurd (congrArg String.length heq) (by rw [Char.toString_eq_singleton, String.length_singleton]; decide +kernel),
      vcol_not_items := hvi }
  obtain ⟨v, hv, hshape, hget⟩ := roundtrip_rowsAt x hit (listed x s) s List.filter_sublist
    (by cases s
        · exact .inr (by rw [listed_dense, length_allIdx])
        · exact .inl rfl)
    (fun _ => eq_zero_of_not_listed x s)
  refine ⟨⟨x.dims, v⟩, ?_, rfl, hshape, hget⟩
  rw [fromDf_eq hx.1, convert_named_long x.dims _ "value" hnl kind hk, toLong_toDfLong x s hnl hnd hval,
    Option.bind_some, hv, Option.bind_some, FArr.mk?_eq_some hx.1 hshape]

/-- **`from_df(dims, x.to_df())` returns `x`** — the dimensions in the index (`to_df()`) or in
columns (`to_df(index=False)`) — for every array with at least one dimension whose dimensions have
distinct names (none of them "value"), valid typed items without repetition, and no dimension whose
only item is the text "value" -/
theorem roundtrip_named_long (x : FArr Rat) (hx : WF x) (hne : x.dims ≠ []) (hn : NamesOk x.dims)
    (hnd : (names x.dims).Nodup) (hval : ∀ d ∈ x.dims, d.valid = true) (hit : ∀ d ∈ x.dims, d.items.Nodup)
    (hvn : "value" ∉ names x.dims) (hvi : ∀ d ∈ x.dims, sameItems [.str "value"] d = false)
    (kind : IndexKind) (hk : kind = .range ∨ ∃ k, kind = .named k) :
    ∃ y, fromDf? x.dims kind (toDfLong x false) false false = some y ∧ y.dims = x.dims ∧
      y.values.shape = shape x.dims ∧ ∀ idx ∈ allIdx (shape x.dims), y.values.get idx = x.values.get idx :=
  roundtrip_toDfLong x hx hne hn hnd hval hit hvn hvi kind hk false

/-- the hypotheses of `roundtrip_named_long` are met by a concrete two-dimensional array -/
example : exArr.dims ≠ [] ∧ NamesOk exArr.dims ∧ (names exArr.dims).Nodup ∧ (∀ d ∈ exArr.dims, d.valid = true) ∧
    (∀ d ∈ exArr.dims, d.items.Nodup) ∧ "value" ∉ names exArr.dims ∧
    (∀ d ∈ exArr.dims, sameItems [.str "value"] d = false) := by decide +kernel

example : ((fromDf? exArr.dims (.named 2) (toDfLong exArr false) false false).map
    fun a => (allIdx a.values.shape).map a.values.get) = some [1, 2, 0, 4] := by decide +kernel

/-! ## the sparse export read back

`to_df(sparse=True)` lists exactly the non-zero entries (`toDf_rows_sparse`); importing that frame
with `allow_missing_values=True` returns the array itself: every listed entry under its labels, zero
everywhere else. The same two steps as for the dense frame: the rows (`roundtrip_rows_sparse`) and
the converter pipeline in front of them (`roundtrip_named_long_sparse`). -/

/-- the rows of the sparse frame, read back column by column -/
def exportedSparse (x : FArr Rat) : LongTable :=
  { rows := ((allIdx (shape x.dims)).filter fun idx => !(x.values.get idx == 0)).map
      fun idx => (labelsOf x.dims idx, some (x.values.get idx)) }

/-- **importing the non-zero rows with `allow_missing_values` returns the array**: same shape, the
same value at every entry (the listed ones from their rows, the others zero as in the array) -/
theorem roundtrip_rows_sparse (x : FArr Rat) (hit : ∀ d ∈ x.dims, d.items.Nodup) :
    ∃ v, complete? x.dims (exportedSparse x) true false = some v ∧ v.shape = shape x.dims ∧
      ∀ idx ∈ allIdx (shape x.dims), v.get idx = x.values.get idx :=
  roundtrip_rowsAt x hit _ true List.filter_sublist (.inl rfl) fun _ => eq_zero_of_not_listed x true

/-- **`from_df(dims, x.to_df(sparse=True), allow_missing_values=True)` returns `x`** — under the
hypotheses of `roundtrip_named_long` (at least one dimension, distinct names none of which is "value",
valid typed items without repetition) -/
theorem roundtrip_named_long_sparse (x : FArr Rat) (hx : WF x) (hne : x.dims ≠ []) (hn : NamesOk x.dims)
    (hnd : (names x.dims).Nodup) (hval : ∀ d ∈ x.dims, d.valid = true) (hit : ∀ d ∈ x.dims, d.items.Nodup)
    (hvn : "value" ∉ names x.dims) (hvi : ∀ d ∈ x.dims, sameItems [.str "value"] d = false)
    (kind : IndexKind) (hk : kind = .range ∨ ∃ k, kind = .named k) :
    ∃ y, fromDf? x.dims kind (toDfLong x true) true false = some y ∧ y.dims = x.dims ∧
      y.values.shape = shape x.dims ∧ ∀ idx ∈ allIdx (shape x.dims), y.values.get idx = x.values.get idx :=
  roundtrip_toDfLong x hx hne hn hnd hval hit hvn hvi kind hk true

/-- non-vacuity: the example array has a zero entry, which the sparse frame leaves out and the import restores -/
example : (toDfLong exArr true).rows.length = 3 ∧
    ((fromDf? exArr.dims .range (toDfLong exArr true) true false).map
      fun a => (allIdx a.values.shape).map a.values.get) = some [1, 2, 0, 4] := by decide +kernel

end Flodym.C11
