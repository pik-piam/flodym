import FlodymProofs.Lemmas.Store
/-!
# C15 — operations never modify their inputs, and results are independent objects

Two views of the same store. Value view (`SStore`): an operation that is not in-place binds its
result to a new handle and leaves every other handle's array as it was. Identity view (`Heap`):
results are allocated in a fresh numpy buffer, so writing into a result (or into a source) can
never show in another array that lives in a different buffer; this is the argument for `copy`,
arithmetic, `cast_to`, `full_like`, slice reads, and for the copy taken by `x[...] = ndarray`.
The driver's store allocates exactly this way (`Store.alloc`), and the `history` / `index`
correspondence streams write through every returned array and compare full-store dumps, so an
implementation that returns a view where the model allocates shows up as a disagreement.
(`sum_to`/`sum_over` with nothing to sum return numpy views of their source; the model mirrors
that, the property does not list reductions among the independent results.) Core Lean only.
-/
namespace Flodym.C15
open Flodym

variable {α : Type}

/-! ## value view: inputs untouched -/

/-- a (successful or failed) operation that is not in-place leaves every *other* array unchanged -/
theorem pure_op_preserves_inputs (s : SStore α) (h : Nat) (f : SStore α → Option (FArr α))
    (h' : Nat) (hne : h' ≠ h) : (s.step (.new h f)).get? h' = s.get? h' := by
  dsimp only [SStore.step]
  cases f s with
  | none => rfl
  | some x => exact (SStore.get?_put ..).trans (if_neg hne)

/-- an in-place assignment changes at most its own target -/
theorem assign_touches_only_target (s : SStore α) (h : Nat) (g : FArr α → SStore α → Option (FArr α))
    (h' : Nat) (hne : h' ≠ h) : (s.step (.assign h g)).get? h' = s.get? h' := by
  dsimp only [SStore.step]
  cases s.get? h with
  | none => rfl
  | some x =>
    dsimp only
    cases g x s with
    | none => rfl
    | some x' => exact (SStore.get?_put ..).trans (if_neg hne)

/-- over a whole history of operations: an array is only ever changed by operations addressed
to its own handle -/
theorem history_preserves_untouched (ops : List (SOp α)) (s : SStore α) (h' : Nat)
    (hno : ∀ op ∈ ops, match op with | .new h _ => h ≠ h' | .assign h _ => h ≠ h') :
    (s.run ops).get? h' = s.get? h' :=
  List.foldlRecOn ops SStore.step (motive := fun t => t.get? h' = s.get? h') rfl fun t ht op hop => by
    have hne := hno op hop
    cases op with
    | new h f => exact (pure_op_preserves_inputs t h f h' hne.symm).trans ht
    | assign h g => exact (assign_touches_only_target t h g h' hne.symm).trans ht

/-! ## identity view: results live in fresh buffers -/

variable {β : Type}

/-- all buffer ids in use are below the allocation counter -/
def Heap.Inv (h : Heap β) : Prop := ∀ hd b, h.owner hd = some b → b < h.next

theorem allocFresh_inv (h : Heap β) (hd : Nat) (c : β) (hi : Heap.Inv h) : Heap.Inv (h.allocFresh hd c) := by
  intro hd' b hb
  rw [Heap.owner_allocFresh] at hb
  show b < h.next + 1
  split at hb
  · cases hb; exact Nat.lt_succ_self _
  · exact Nat.lt_succ_of_lt (hi hd' b hb)

/-- allocating a result leaves what every other handle reads unchanged (inputs untouched) -/
theorem allocFresh_preserves_reads (h : Heap β) (hd : Nat) (c : β) (hi : Heap.Inv h) (hd' : Nat)
    (hne : hd' ≠ hd) : (h.allocFresh hd c).read hd' = h.read hd' := by
  unfold Heap.read
  rw [Heap.owner_allocFresh, if_neg hne]
  cases ho : h.owner hd' with
  | none => rfl
  | some b => exact if_neg fun e => Nat.lt_irrefl _ (e ▸ hi hd' b ho)

/-- **a fresh result is independent**: writing into it never changes what any other handle reads,
and writing into any other handle never changes it -/
theorem fresh_result_independent (h : Heap β) (hd : Nat) (c : β) (hi : Heap.Inv h) (hd' : Nat)
    (hne : hd' ≠ hd) (c' : β) :
    ((h.allocFresh hd c).write hd c').read hd' = h.read hd' ∧
    ((h.allocFresh hd c).write hd' c').read hd = some c :=
  -- the buffer of the fresh result is nobody else's
  have ho : (h.allocFresh hd c).owner hd ≠ (h.allocFresh hd c).owner hd' := by
    rw [Heap.owner_allocFresh, Heap.owner_allocFresh, if_pos rfl, if_neg hne]
    exact fun e => Nat.lt_irrefl _ (hi hd' _ e.symm)
  ⟨(Heap.read_write_of_ne _ hd c' hd' ho).trans (allocFresh_preserves_reads h hd c hi hd' hne),
   (Heap.read_write_of_ne _ hd' c' hd ho.symm).trans (Heap.read_allocFresh_self h hd c)⟩

/-- handles with different buffers never see each other's writes -/
theorem write_isolated (h : Heap β) (hd hd' : Nat) (b b' : Nat) (c : β)
    (ho : h.owner hd = some b) (ho' : h.owner hd' = some b') (hne : b ≠ b') :
    (h.write hd c).read hd' = h.read hd' :=
  Heap.read_write_of_ne h hd c hd' (by rw [ho, ho']; exact fun e => hne (Option.some.inj e))

/-- when every operation allocates its result freshly, no two handles ever share a buffer -/
def NoSharing (h : Heap β) : Prop := ∀ a a' b, a ≠ a' → h.owner a = some b → h.owner a' ≠ some b

theorem allocFresh_noSharing (h : Heap β) (hd : Nat) (c : β) (hi : Heap.Inv h) (hn : NoSharing h) :
    NoSharing (h.allocFresh hd c) := by
  intro a a' b hne ha ha'
  rw [Heap.owner_allocFresh] at ha ha'
  split at ha <;> split at ha'
  · exact hne (‹a = hd›.trans ‹a' = hd›.symm)
  · cases ha; exact Nat.lt_irrefl _ (hi a' _ ha')
  · cases ha'; exact Nat.lt_irrefl _ (hi a _ ha)
  · exact hn a a' b hne ha ha'

theorem history_noSharing (h : Heap β) (allocs : List (Nat × β)) (hi : Heap.Inv h) (hn : NoSharing h) :
    NoSharing (allocs.foldl (fun hp p => hp.allocFresh p.1 p.2) h) ∧
    Heap.Inv (allocs.foldl (fun hp p => hp.allocFresh p.1 p.2) h) :=
  List.foldlRecOn allocs _ (motive := fun h => NoSharing h ∧ Heap.Inv h) ⟨hn, hi⟩ fun h ⟨hn, hi⟩ p _ =>
    ⟨allocFresh_noSharing h p.1 p.2 hi hn, allocFresh_inv h p.1 p.2 hi⟩

end Flodym.C15
