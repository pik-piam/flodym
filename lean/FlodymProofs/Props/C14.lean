import FlodymProofs.Lemmas.DimSets
import FlodymProofs.Lemmas.Lookup
import Mathlib.Algebra.BigOperators.Group.List.Basic
/-!
# C14 — dimension sets behave as ordered sets of uniquely lettered dimensions

`DimSet` *is* the ordered list; the functions of `Flodym/Dims.lean` transcribe the methods of
`DimensionSet`. The theorems characterise every operator by the ordered list it returns, show
that distinct letters are preserved by every constructor and mutator (a clash is refused), and
lift that to arbitrary operation sequences. Object identity (who shares which Python list) is
covered by the `dims` history stream with a full-store dump after every step.
-/
namespace Flodym.C14
open Flodym DimSet

/-! ## set operators -/

/-- union keeps the left set's order and appends the right set's new dimensions -/
theorem union_spec (D D' : DimSet) (h : (letters D).Nodup) (h' : (letters D').Nodup) :
    unionWith? D D' = some (D ++ D'.filter (fun d => !((letters D).contains d.letter))) :=
  unionWith?_eq h h'

/-- intersection and difference keep the left set's order -/
theorem inter_spec (D D' : DimSet) :
    intersectWith D D' = D.filter (fun d => (letters D').contains d.letter) ∧
    (intersectWith D D').Sublist D := ⟨rfl, List.filter_sublist⟩

theorem diff_spec (D D' : DimSet) :
    differenceWith D D' = D.filter (fun d => !((letters D').contains d.letter)) ∧
    (differenceWith D D').Sublist D := ⟨rfl, List.filter_sublist⟩

/-- symmetric difference is the combination of the two differences -/
theorem xor_spec (D D' : DimSet) (h : (letters D).Nodup) (h' : (letters D').Nodup) :
    xor? D D' = some (differenceWith D D' ++ differenceWith D' D) := by
  have h1 : (letters (differenceWith D D')).Nodup := nodup_letters_filter h
  have h2 : (letters (differenceWith D' D)).Nodup := nodup_letters_filter h'
  -- a dimension of D' \ D has a letter outside D, hence outside D \ D'
  rw [xor?, unionWith?_eq h1 h2, unionDims, filter_notin_eq_self fun d hd hm => ?_]
  rw [letters_diff] at hm
  exact not_contains_eq_true_iff.mp (List.mem_filter.mp hd).2 (List.mem_filter.mp hm).1

/-- '+' refuses overlapping sets and is the union otherwise -/
theorem add_refuses_overlap (D D' : DimSet) (h : ∃ d ∈ D, d.letter ∈ letters D') : add? D D' = none := by
  unfold add?
  obtain ⟨d, hd, hl⟩ := h
  have : (intersectWith D D').isEmpty = false := by
    rw [List.isEmpty_eq_false_iff_exists_mem]
    exact ⟨d, List.mem_filter.mpr ⟨hd, List.contains_iff_mem.mpr hl⟩⟩
  rw [this]; rfl

theorem add_disjoint (D D' : DimSet) (h : (letters D).Nodup) (h' : (letters D').Nodup)
    (hdis : ∀ d ∈ D, d.letter ∉ letters D') : add? D D' = some (D ++ D') := by
  have hi : intersectWith D D' = [] :=
    List.filter_eq_nil_iff.mpr fun d hd h => hdis d hd (List.contains_iff_mem.mp h)
  have hdis' : ∀ d ∈ D', d.letter ∉ letters D := fun d hd hm => by
    obtain ⟨d0, hd0, hl⟩ := mem_letters.mp hm
    exact hdis d0 hd0 (hl ▸ letter_mem hd)
  rw [add?, hi, unionWith?_eq h h', unionDims, filter_notin_eq_self hdis']
  rfl

/-- selecting a subset by letters returns the dimensions in the requested order -/
theorem getSubset_requested_order (D : DimSet) (hnd : (letters D).Nodup) (hn : NamesOk D)
    (ds : List Dim) (hds : ∀ d ∈ ds, d ∈ D) (hdn : (letters ds).Nodup) :
    getSubset? D (some ((letters ds).map (·.toString))) = some ds :=
  getSubset?_letters D hnd hn ds hds hdn

/-- … and by names alike -/
theorem getSubset_by_names (D : DimSet) (hnames : (names D).Nodup) (hn : NamesOk D)
    (ds : List Dim) (hds : ∀ d ∈ ds, d ∈ D) (hdn : (letters ds).Nodup) :
    getSubset? D (some (names ds)) = some ds :=
  getSubset?_of_keys D (·.name) ds (fun d hd => lookup?_name D hnames hn d (hds d hd)) hdn

/-- a requested dimension that is not in the set is refused -/
theorem getSubset_unknown (D : DimSet) (keys : List String) (key : String) (hk : key ∈ keys)
    (h : ∀ d ∈ D, d.name ≠ key ∧ d.letter.toString ≠ key) : getSubset? D (some keys) = none :=
  getSubset?_unknown D keys key hk h

/-! ## lookups agree with the order -/

theorem lookup_by_letter (D : DimSet) (hnd : (letters D).Nodup) (hn : NamesOk D) (d : Dim) (hd : d ∈ D) :
    lookup? D d.letter.toString = some d ∧ contains D d.letter.toString = true ∧
    size? D d.letter.toString = some d.len := by
  -- `contains` and `size?` are `isSome` and the length of what the lookup returns
  have := lookup?_letter D hnd hn d hd
  exact ⟨this, congrArg Option.isSome this, congrArg (Option.map Dim.len) this⟩

theorem lookup_by_name (D : DimSet) (hnames : (names D).Nodup) (hn : NamesOk D) (d : Dim) (hd : d ∈ D) :
    lookup? D d.name = some d ∧ contains D d.name = true ∧ size? D d.name = some d.len := by
  have := lookup?_name D hnames hn d hd
  exact ⟨this, congrArg Option.isSome this, congrArg (Option.map Dim.len) this⟩

theorem not_contains_unknown (D : DimSet) (key : String)
    (h : ∀ d ∈ D, d.name ≠ key ∧ d.letter.toString ≠ key) : contains D key = false :=
  congrArg Option.isSome (lookup?_unknown D key h)

/-- `index(letter)` is the position in the list; lookup by position returns that dimension -/
theorem index_is_position (D : DimSet) (hnd : (letters D).Nodup) (hn : NamesOk D) (i : Nat) (hi : i < D.length) :
    index? D (D[i]).letter.toString = some i ∧ getIdx? D (i : Int) = some D[i] := by
  constructor
  · rw [index?, lookup?_letter D hnd hn D[i] (List.getElem_mem hi), Option.bind_some,
      List.Nodup.idxOf_getElem (nodup_of_nodup_map hnd) i hi, if_pos hi]
  · rw [getIdx?, if_pos (Int.natCast_nonneg i), Int.toNat_natCast, List.getElem?_eq_getElem hi]

theorem shape_and_size (D : DimSet) :
    DimSet.shape D = D.map (·.len) ∧ ndim D = D.length ∧ totalSize D = (D.map (·.len)).prod :=
  ⟨rfl, rfl, List.prod_eq_foldr.symm⟩

/-! ## letters stay unique; a clash is refused -/

theorem mk_iff (ds : List Dim) : (∃ r, DimSet.mk? ds = some r) ↔ (letters ds).Nodup :=
  ⟨fun ⟨_, h⟩ => (of_ite_eq_some h).1, fun h => ⟨ds, if_pos h⟩⟩

/-- the in-place mutators -/
inductive Mut where
  | expand (added : List Dim)
  | append (d : Dim)
  | prepend (d : Dim)
  | insert (i : Int) (d : Dim)
  | drop (key : String)
  | replace (key : String) (d : Dim)

def Mut.apply (D : DimSet) : Mut → Option DimSet
  | .expand a => expandByInplace? D a
  | .append d => appendInplace? D d
  | .prepend d => prependInplace? D d
  | .insert i d => insertInplace? D i d
  | .drop k => drop? D k
  | .replace k d => replace? D k d

/-- every in-place mutator keeps the letters distinct (when it does not refuse) -/
theorem mutator_preserves_unique (D D' : DimSet) (m : Mut) (h : (letters D).Nodup)
    (hm : m.apply D = some D') : (letters D').Nodup := by
  cases m with
  | expand a =>
    obtain ⟨hc, rfl⟩ := of_ite_eq_some hm
    obtain ⟨hf, ha⟩ := Bool.and_eq_true_iff.mp hc
    exact nodup_letters_append.mpr ⟨h, of_decide_eq_true ha, fun d hd =>
      checkAdditional_iff.mp (List.all_eq_true.mp hf d hd)⟩
  | append d =>
    obtain ⟨hc, rfl⟩ := of_ite_eq_some hm
    exact nodup_letters_append.mpr ⟨h, List.pairwise_singleton _ _, fun a ha =>
      List.mem_singleton.mp ha ▸ checkAdditional_iff.mp hc⟩
  | prepend d =>
    obtain ⟨hc, rfl⟩ := of_ite_eq_some hm
    exact List.nodup_cons.mpr ⟨checkAdditional_iff.mp hc, h⟩
  | insert i d =>
    obtain ⟨hc, rfl⟩ := of_ite_eq_some hm
    exact nodup_letters_insertIdx h (checkAdditional_iff.mp hc)
  | drop k =>
    obtain ⟨d, _, rfl⟩ := Option.map_eq_some_iff.mp hm
    exact (List.erase_sublist.map _).nodup h
  | replace k d =>
    obtain ⟨hd, hi⟩ := Option.ite_none_left_eq_some.mp hm
    obtain ⟨i, _, rfl⟩ := Option.map_eq_some_iff.mp hi
    rw [letters, List.map_set]
    exact nodup_set_fresh h i fun hm => hd (List.contains_iff_mem.mpr hm)

/-- a clash is refused by every adding mutator -/
theorem clash_refused (D : DimSet) (d : Dim) (hc : d.letter ∈ letters D) (i : Int) (k : String) :
    appendInplace? D d = none ∧ prependInplace? D d = none ∧ insertInplace? D i d = none ∧
    expandByInplace? D [d] = none ∧ replace? D k d = none ∧
    append? D d = none ∧ prepend? D d = none ∧ insert? D i d = none ∧ expandBy? D [d] = none := by
  -- every one of them asks `_check_additional_dim` (or its inlined form) first
  have hca : ¬ checkAdditional D d = true := fun h => checkAdditional_iff.mp h hc
  have hall : ¬ ([d].all fun d => !((letters D).contains d.letter)) = true :=
    fun h => hca (List.all_eq_true.mp h d List.mem_cons_self)
  exact ⟨if_neg hca, if_neg hca, if_neg hca, if_neg fun h => hall (Bool.and_eq_true_iff.mp h).1,
    if_pos (List.contains_iff_mem.mpr hc), if_neg hca, if_neg hca,
    congrArg (Option.bind · DimSet.mk?) (if_neg hca), if_neg hall⟩

/-- two added dimensions sharing a letter are refused, in place and out of place alike -/
theorem expand_refuses_internal_clash (D : DimSet) (a : List Dim) (h : ¬ (letters a).Nodup) :
    expandByInplace? D a = none ∧ expandBy? D a = none := by
  refine ⟨if_neg fun hh => h (of_decide_eq_true (Bool.and_eq_true_iff.mp hh).2), ?_⟩
  unfold expandBy?
  split
  · exact if_neg fun hh => h (nodup_letters_append.mp hh).2.1
  · rfl

/-- every sequence of in-place mutations keeps the letters distinct -/
theorem history_preserves_unique (D : DimSet) (ms : List Mut) (h : (letters D).Nodup) :
    ∀ D', ms.foldlM Mut.apply D = some D' → (letters D').Nodup := by
  induction ms generalizing D with
  | nil => intro D' hD'; cases hD'; exact h
  | cons m ms ih =>
    intro D' hD'
    rw [List.foldlM_cons] at hD'
    obtain ⟨D1, hm, hD1⟩ := Option.bind_eq_some_iff.mp hD'
    exact ih D1 (mutator_preserves_unique D D1 m h hm) D' hD1

/-- the out-of-place forms construct a validated set: whatever they return has distinct letters -/
theorem out_of_place_unique (D : DimSet) (d : Dim) (i : Int) (k : String) (a : List Dim) (r : DimSet) :
    (expandBy? D a = some r ∨ insert? D i d = some r ∨ (drop? D k).bind DimSet.mk? = some r ∨
      (replace? D k d).bind DimSet.mk? = some r ∨ getSubset? D (some (a.map (·.name))) = some r) →
    (letters r).Nodup := by
  rintro (h | h | h | h | h)
  · exact ite_yields DimSet.mk?_yields_nodup none_yields r h
  all_goals exact bind_yields (fun _ => DimSet.mk?_yields_nodup) r h

/-! ### hypotheses are satisfiable -/
def dA : Dim := { letter := 'a', name := "aa", items := [.int 1, .int 2] }
def dB : Dim := { letter := 'b', name := "bb", items := [.str "x"] }
def dC : Dim := { letter := 'c', name := "cc", items := [.str "p", .str "q"] }
example : (letters [dA, dB]).Nodup ∧ (letters [dB, dC]).Nodup ∧ NamesOk [dA, dB] ∧ (names [dA, dB]).Nodup := by
  decide +kernel
example : unionWith? [dA, dB] [dC, dB] = some [dA, dB, dC] := by decide +kernel
example : xor? [dA, dB] [dC, dB] = some [dA, dC] := by decide +kernel

end Flodym.C14
