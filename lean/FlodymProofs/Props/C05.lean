import FlodymProofs.Lemmas.GetSet
/-!
# C05 — assignment into a declared array keeps its dims and sums the source by label

Notation (`Lemmas/IndexPlan.lean`): `S'` = what the key asks of each dimension; `outDims x.dims S'` = the
dimensions of the addressed region; `liftIdx x.dims S' e` = the target entry that the region
labels `e` stand for. List selectors with an array right-hand side are the recorded finding D10
(positional placement along the listed dimension) and are outside these theorems; the `index`
correspondence stream covers them as the code behaves.
-/
namespace Flodym.C05
open Flodym DimSet SubArray

variable {α : Type}

/-- `target[key] = array`: dims and shape never change; every addressed entry receives the source
summed over the dimensions the region does not have, matched by label; nothing outside the
addressed region changes -/
theorem setitem_array_by_label [Add α] [OfNat α 0] (x y : FArr α) (hx : WF x) (hy : WF y)
    (kvs : List (String × Sel)) (S' : List DSel)
    (hdec : Decodes x.dims kvs (x.dims.map fun _ => DSel.keep) S') (hok : SelsOK x.dims S')
    (hinj : SelsInj S') (hsub : ∀ d ∈ outDims x.dims S', d ∈ y.dims) :
    ∃ r, x.setitem? (.dict kvs) (.arr y) = some r ∧ r.dims = x.dims ∧ WF r ∧
      (∀ e, Valid (outDims x.dims S') e →
        r.values.get (liftIdx x.dims S' e) = margin y (letters (outDims x.dims S')) e) ∧
      (∀ idx, (∀ e, Valid (outDims x.dims S') e → liftIdx x.dims S' e ≠ idx) →
        r.values.get idx = x.values.get idx) := by
  obtain ⟨ids, p, hh, hndo, hp, hps, hset⟩ := setitem_region x hx kvs S' hdec hok
  obtain ⟨v, hv, hvs, hvg⟩ := sumValuesToL_spec y hy (outDims x.dims S') hsub hndo
  obtain ⟨vb, hvb, hvbs, hvbg⟩ := broadcastTo?_same v p.shape (hvs.trans hps.symm)
  obtain ⟨nv, hnv, hwf, hin, hout⟩ := hset vb hvbs
  refine ⟨⟨x.dims, nv⟩, ?_, rfl, hwf, fun e hve => ?_, hout⟩
  · unfold FArr.setitem?
    simp only [Option.bind_eq_bind, hh, Option.bind_some, hp, hv, hvb, hnv]
  · -- the position written from addresses the same entry, hence carries the same labels
    obtain ⟨e', hve', hsame, hget⟩ := hin e hve
    rw [hget, liftIdx_inj hok hinj hve' hve hsame,
      hvbg _ (hps ▸ (mem_allIdx_shape hndo).mpr ⟨e, hve, rfl⟩)]
    exact hvg e

/-- … and is rejected when the source lacks a dimension the region has -/
theorem setitem_array_missing_dim_rejected [Add α] [OfNat α 0] (x y : FArr α) (hx : WF x)
    (kvs : List (String × Sel)) (S' : List DSel)
    (hdec : Decodes x.dims kvs (x.dims.map fun _ => DSel.keep) S') (hok : SelsOK x.dims S')
    (hmiss : ∃ l ∈ letters (outDims x.dims S'), l ∉ y.letters) :
    x.setitem? (.dict kvs) (.arr y) = none := by
  obtain ⟨ids, p, hh, _, hp', _, _⟩ := setitem_region x hx kvs S' hdec hok
  unfold FArr.setitem?
  simp only [Option.bind_eq_bind, hh, Option.bind_some, hp', sumValuesToL?_eq_none hmiss, Option.bind_none]

/-- a number fills the region -/
theorem setitem_number_fills [Add α] [OfNat α 0] (x : FArr α) (hx : WF x)
    (kvs : List (String × Sel)) (S' : List DSel) (c : α)
    (hdec : Decodes x.dims kvs (x.dims.map fun _ => DSel.keep) S') (hok : SelsOK x.dims S') :
    ∃ r, x.setitem? (.dict kvs) (.num c) = some r ∧ r.dims = x.dims ∧ WF r ∧
      (∀ e, Valid (outDims x.dims S') e → r.values.get (liftIdx x.dims S' e) = c) ∧
      (∀ idx, (∀ e, Valid (outDims x.dims S') e → liftIdx x.dims S' e ≠ idx) →
        r.values.get idx = x.values.get idx) := by
  obtain ⟨ids, p, hh, _, hp, _, hset⟩ := setitem_region x hx kvs S' hdec hok
  obtain ⟨nv, hnv, hwf, hin, hout⟩ := hset (ND.full p.shape c) rfl
  refine ⟨⟨x.dims, nv⟩, ?_, rfl, hwf, fun e hve => ?_, hout⟩
  · unfold FArr.setitem?
    simp only [Option.bind_eq_bind, hh, Option.bind_some, hp, hnv]
  · obtain ⟨_, _, _, hget⟩ := hin e hve
    exact hget

/-- whole-array assignment `target[...] = array`: every entry = the source summed to the target's
dimensions, by label (the empty key decodes to "keep everything") -/
theorem setitem_whole_array [Add α] [OfNat α 0] (x y : FArr α) (hx : WF x) (hy : WF y)
    (hsub : ∀ d ∈ x.dims, d ∈ y.dims) :
    ∃ r, x.setitem? .ellipsis (.arr y) = some r ∧ r.dims = x.dims ∧ WF r ∧
      ∀ e, Valid x.dims e → r.at e = margin y x.letters e := by
  -- the ellipsis key and the empty dict build the same handler, so `h1` is about `x.setitem? .ellipsis`
  obtain ⟨r, h1, h2, h3, h4, _⟩ := setitem_array_by_label x y hx hy [] _ (.nil _) (SelsOK_keep x.dims)
    (SelsInj_keep x.dims) (by rw [outDims_keep]; exact hsub)
  refine ⟨r, h1, h2, h3, fun e hv => ?_⟩
  have := h4 e (by rw [outDims_keep]; exact hv)
  rw [outDims_keep, liftIdx_keep] at this
  show r.values.get ((letters r.dims).map e) = _
  rw [h2]
  exact this

/-- the code as it stands sends `x[{}] = ndarray` and `x[()] = ndarray` through `set_values` as well
(regenerated from `__setitem__`; D31 before the repair: these two broadcast) -/
theorem source_empty_key_is_whole_array : Gen.emptyKeyIsWholeArray = true := by decide

/-- **every way of addressing the whole array** (`...`, the empty dict, the empty tuple) takes an
ndarray exactly when it has the target's shape, and stores it as given -/
theorem setitem_whole_ndarray_any_key [Add α] [OfNat α 0] (x : FArr α) (hx : WF x) (v : ND α) (key : Key)
    (hk : key = .ellipsis ∨ key = .dict [] ∨ key = .tuple []) :
    (v.shape = x.values.shape → x.setitem? key (.nd v) = some ⟨x.dims, v⟩) ∧
    (v.shape ≠ x.values.shape → x.setitem? key (.nd v) = none) := by
  have hw : key.whole Gen.emptyKeyIsWholeArray = true := by
    rcases hk with rfl | rfl | rfl
    · rfl
    · exact source_empty_key_is_whole_array
    · exact source_empty_key_is_whole_array
  -- the three keys build the same handler
  rw [setitem?_whole_nd x hx v key (by rcases hk with rfl | rfl | rfl <;> rfl) hw, hx.2]
  exact ⟨FArr.mk?_eq_some hx.1, fun hs => if_neg fun h => hs h.2⟩

/-- whole-array assignment of an ndarray: accepted exactly when it has the target's shape, and
then stored as given (never broadcast, never transposed) -/
theorem setitem_whole_ndarray [Add α] [OfNat α 0] (x : FArr α) (hx : WF x) (v : ND α) :
    (v.shape = x.values.shape → x.setitem? .ellipsis (.nd v) = some ⟨x.dims, v⟩) ∧
    (v.shape ≠ x.values.shape → x.setitem? .ellipsis (.nd v) = none) :=
  setitem_whole_ndarray_any_key x hx v .ellipsis (.inl rfl)

/-! ## recorded finding D10: a list key places an array right-hand side by position -/

def dR : Dim := { letter := 'r', name := "rr", items := [.str "a", .str "b"] }
def exT : FArr Int := ⟨[dR], ND.ofFlat [2] #[0, 0] 0⟩
def exY : FArr Int := ⟨[dR], ND.ofFlat [2] #[10, 20] 0⟩

/-- `x[{"r": ["b", "a"]}] = y` writes y's entry for `a` under `b` and vice versa: the entries land
as (a ↦ 20, b ↦ 10) although y holds (a ↦ 10, b ↦ 20). The model mirrors the code here; matching
by label would give [10, 20]. The theorems above therefore exclude list selectors combined with an
array right-hand side (`_partial` in the sense of DESIGN.md 4.3). -/
theorem list_key_array_rhs_is_positional_D10 :
    (exT.setitem? (.dict [("r", .list [.str "b", .str "a"])]) (.arr exY)).map (·.values.toList)
      = some [20, 10] := by decide +kernel

/-! ## sequences of assignments to overlapping regions: the last writer wins -/

/-- one assignment seen from a single entry: either the entry is addressed and receives `val`,
or it keeps its value -/
structure Write (α : Type) where
  addressed : List Nat → Prop
  val : List Nat → α

/-- `b` is the result of applying `w` to `a` -/
def Write.Relates (w : Write α) (a b : List Nat → α) : Prop :=
  (∀ idx, w.addressed idx → b idx = w.val idx) ∧ (∀ idx, ¬ w.addressed idx → b idx = a idx)

/-- an entry that no assignment after the `j`-th up to the `k`-th addresses has in state `k` the
value it had in state `j`. The bounds of the list accesses are bound variables, so the statement
fits whatever bound proofs the caller's accesses carry. -/
theorem history_frame (ws : List (Write α)) (states : List (List Nat → α)) (a0 : List Nat → α)
    (hstep : ∀ k (h : k < ws.length) h1 h2,
      (ws[k]).Relates (if k = 0 then a0 else states[k - 1]'h1) (states[k]'h2))
    (idx : List Nat) (j k : Nat) (hjk : j ≤ k) :
    k < ws.length → ∀ hk hj, (∀ i (h : i < ws.length), j < i → i ≤ k → ¬ (ws[i]).addressed idx) →
      (states[k]'hk) idx = (states[j]'hj) idx := by
  induction hjk with
  | refl => exact fun _ _ _ _ => rfl
  | @step k hjk ih =>
    intro h hk hj hno
    rw [(hstep (k + 1) h (Nat.lt_of_succ_lt hk) hk).2 idx (hno _ h (Nat.lt_succ_of_le hjk) (Nat.le_refl _)),
      if_neg k.succ_ne_zero]
    exact ih (Nat.lt_of_succ_lt h) _ hj fun i hi hji hik => hno i hi hji (Nat.le_succ_of_le hik)

/-- after any sequence of assignments, an entry holds the value written by the last assignment
whose region contains it, and its original value if there is none -/
theorem history_last_writer_wins (ws : List (Write α)) (states : List (List Nat → α))
    (a0 : List Nat → α) (hlen : states.length = ws.length)
    (hstep : ∀ k (h : k < ws.length),
      (ws[k]).Relates (if k = 0 then a0 else states[k - 1]'(by omega)) (states[k]'(by omega)))
    (idx : List Nat) :
    (∀ w ∈ ws, ¬ w.addressed idx) → (states.getLast?.getD a0) idx = a0 idx := by
  intro hno
  cases hs : states.getLast? with
  | none => rfl
  | some s =>
    obtain ⟨k, hk, rfl⟩ := List.getElem_of_mem (List.mem_of_getLast? hs)
    have h0 : 0 < ws.length := hlen ▸ Nat.zero_lt_of_lt hk
    exact (history_frame ws states a0 (fun k h _ _ => hstep k h) idx 0 k k.zero_le (hlen ▸ hk) hk (hlen ▸ h0)
      fun i hi _ _ => hno _ (List.getElem_mem hi)).trans ((hstep 0 h0).2 idx (hno _ (List.getElem_mem h0)))

/-- … and the last assignment addressing an entry determines it -/
theorem history_last_write_value (ws : List (Write α)) (states : List (List Nat → α))
    (a0 : List Nat → α) (hlen : states.length = ws.length)
    (hstep : ∀ k (h : k < ws.length),
      (ws[k]).Relates (if k = 0 then a0 else states[k - 1]'(by omega)) (states[k]'(by omega)))
    (idx : List Nat) (j : Nat) (hj : j < ws.length) (haddr : (ws[j]).addressed idx)
    (hlater : ∀ k (h : k < ws.length), j < k → ¬ (ws[k]).addressed idx) :
    ∀ k (h : k < ws.length), j ≤ k → (states[k]'(by omega)) idx = (ws[j]).val idx :=
  fun k h hjk => (history_frame ws states a0 (fun k h _ _ => hstep k h) idx j k hjk h _ (hlen ▸ hj)
    fun i hi hji _ => hlater i hi hji).trans ((hstep j hj).1 idx haddr)

end Flodym.C05
