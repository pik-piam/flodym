import FlodymProofs.Lemmas.DSM
import Mathlib.Algebra.Order.Field.Basic
import Mathlib.Algebra.Order.BigOperators.Group.Finset
/-!
# C03 — computed stocks conserve mass: stock change = net inflow × interval length

`it k` = k-th time item, `n` items; `dt it n t` = the documented interval length; `j` indexes the
flattened non-time label combinations (every formula acts on each `j` separately — that is what the
ellipsis in the regenerated einsum subscripts means). `K` is any field (in particular ℝ); the
order-dependent statements take a linearly ordered field. `sf` is any lower-triangular survival
table (every lifetime model produces one: C08).
-/
open Finset BigOperators
namespace Flodym.C03
open Flodym Flodym.DSM

variable {K : Type}

/-! ## the time grid -/

/-- interval bounds sit at the midpoints between consecutive time items; the first and the last
interval mirror their neighbour -/
theorem bounds_spec [Field K] (it : Nat → K) (n : Nat) (hn : 3 ≤ n) :
    (∀ k, 0 < k → k < n → bounds it n k = (it (k - 1) + it k) / 2) ∧
    dt it n 0 = dt it n 1 ∧ dt it n (n - 1) = dt it n (n - 2) := by
  have h0 : 0 < n := Nat.zero_lt_of_lt hn
  refine ⟨fun k hk hkn => ?_, ?_, ?_⟩
  · rw [bounds_inner it n hk hkn, mid, Nat.sub_add_cancel hk, one_add_one_eq_two]
  · rw [dt_eq it n hn h0, dt_eq it n hn (Nat.lt_of_succ_lt hn)]
  · -- both intervals take the midpoint pair at `n - 3`
    rw [dt_eq it n hn (Nat.sub_lt h0 Nat.one_pos), dt_eq it n hn (Nat.sub_lt h0 Nat.two_pos),
      Nat.min_eq_right (show n - 3 ≤ n - 1 - 1 from Nat.sub_le_sub_left (Nat.le_succ 2) n),
      Nat.min_eq_right (show n - 3 ≤ n - 2 - 1 from Nat.le_refl _)]

/-- every interval has positive length when the time items increase strictly -/
theorem dt_pos [Field K] [LinearOrder K] [IsStrictOrderedRing K] (it : Nat → K) (n : Nat) (hn : 3 ≤ n)
    (hinc : ∀ k, k + 1 < n → it k < it (k + 1)) (t : Nat) (ht : t < n) : 0 < dt it n t := by
  have hk : min (t - 1) (n - 3) + 1 + 1 < n := Nat.add_le_of_le_sub hn (Nat.min_le_right _ _)
  -- a midpoint lies strictly between its two items, so the item between two neighbouring midpoints separates them
  rw [dt_eq it n hn ht, mid, mid, one_add_one_eq_two]
  exact sub_pos.2 ((add_div_two_lt_right.2 (hinc _ (Nat.lt_of_succ_lt hk))).trans (left_lt_add_div_two.2 (hinc _ hk)))

/-! ## inflow-driven model -/

/-- any stock that is the cohort sum of what survives of the inflow changes by
dt(t)·(inflow(t) − outflow(t)); the computed stock of the inflow-driven model is one, the
prescribed stock of the stock-driven model another -/
theorem balance_of_cohort_sum [Field K] (it : Nat → K) (n : Nat) (inflow stock : Nat → Nat → K)
    (sf : Nat → Nat → Nat → K) (hlt : LowerTri sf) (hdt : ∀ t, t < n → dt it n t ≠ 0) (j : Nat)
    (hstock : ∀ s, s < n → stock s j = ∑ c ∈ range n, inflow c j * dt it n c * sf s c j)
    (t : Nat) (ht : t < n) :
    stock t j - (if t = 0 then 0 else stock (t - 1) j)
      = dt it n t * (inflow t j - (inflowDriven it n inflow sf).outflow t j) := by
  -- in whole-period terms the right side is `stock_step`'s, the left side becomes it by `hstock` at `t` and `t - 1`
  rw [mul_sub, mul_comm _ (inflow t j), mul_comm _ (DsmResult.outflow _ t j),
    inflowDriven_outflow_mul_dt it n inflow sf t j (hdt t ht),
    ← stock_step hlt n (fun c => inflow c j * dt it n c) j t ht, hstock t ht]
  exact congrArg (_ - ·) <| ite_congr rfl (fun _ => rfl) fun _ =>
    hstock (t - 1) (Nat.lt_of_le_of_lt (Nat.sub_le t 1) ht)

/-- stock(t) − stock(t−1) = dt(t)·(inflow(t) − outflow(t)), with stock(−1) = 0 -/
theorem inflowDriven_balance [Field K] (it : Nat → K) (n : Nat) (inflow : Nat → Nat → K)
    (sf : Nat → Nat → Nat → K) (hlt : LowerTri sf) (hdt : ∀ t, t < n → dt it n t ≠ 0)
    (t j : Nat) (ht : t < n) :
    let r := inflowDriven it n inflow sf
    r.stock t j - (if t = 0 then 0 else r.stock (t - 1) j)
      = dt it n t * (r.inflow t j - r.outflow t j) :=
  balance_of_cohort_sum it n inflow _ sf hlt hdt j (fun s _ => inflowDriven_stock it n inflow sf s j) t ht

/-- hence the stock is cumulative inflow minus cumulative outflow (whole periods) -/
theorem inflowDriven_cumulative [Field K] (it : Nat → K) (n : Nat) (inflow : Nat → Nat → K)
    (sf : Nat → Nat → Nat → K) (hlt : LowerTri sf) (hdt : ∀ t, t < n → dt it n t ≠ 0)
    (j : Nat) (t : Nat) (ht : t < n) :
    let r := inflowDriven it n inflow sf
    r.stock t j = ∑ s ∈ range (t + 1), dt it n s * (r.inflow s j - r.outflow s j) := by
  intro r
  -- the stock is the sum of its own increments, and each increment is the balance of its year
  rw [eq_sum_range_sub' (fun s => r.stock s j) t]
  refine sum_congr rfl fun s hs => ?_
  rw [← inflowDriven_balance it n inflow sf hlt hdt s j (Nat.lt_of_le_of_lt (mem_range_succ_iff.1 hs) ht), sub_ite]
  exact ite_congr rfl (fun h => by rw [h, sub_zero]) fun _ => rfl

/-! ## stock-driven model (manual solver; LAPACK is specified to return the same unique solution) -/

theorem stockDriven_inflow_wp [Field K] (it : Nat → K) (n : Nat) (stock : Nat → Nat → K)
    (sf : Nat → Nat → Nat → K) (hdt : ∀ t, t < n → dt it n t ≠ 0) (t j : Nat) (ht : t < n) :
    (stockDriven it n stock sf).inflow t j * dt it n t = sdInflowWP n stock sf t j := by
  rw [stockDriven_inflow, div_mul_cancel₀ _ (hdt t ht)]

/-- the prescribed stock is the cohort sum of the inflow found: stock(t) = Σ_c inflow(c)·dt(c)·sf(t,c) -/
theorem stockDriven_reproduces_stock [Field K] (it : Nat → K) (n : Nat) (stock : Nat → Nat → K)
    (sf : Nat → Nat → Nat → K) (hlt : LowerTri sf) (hd : ∀ t j, t < n → sf t t j ≠ 0)
    (hdt : ∀ t, t < n → dt it n t ≠ 0) (t j : Nat) (ht : t < n) :
    ∑ c ∈ range n, (stockDriven it n stock sf).inflow c j * dt it n c * sf t c j = stock t j := by
  rw [← inflowDriven_stock, inflowDriven_stock_tri it n _ sf hlt t j ht, ← manual_solves n stock sf hd t j ht]
  exact sum_congr rfl fun c hc => by
    rw [stockDriven_inflow_wp it n stock sf hdt c j (Nat.lt_of_lt_of_le (mem_range.1 hc) ht)]

theorem stockDriven_outflow [Field K] (it : Nat → K) (n : Nat) (stock : Nat → Nat → K)
    (sf : Nat → Nat → Nat → K) (t j : Nat) :
    (stockDriven it n stock sf).outflow t j
      = ∑ c ∈ range n, (stockDriven it n stock sf).inflow c j * dt it n c * pdfTable sf t c j / dt it n t :=
  -- by unfolding, the stock-driven record is the inflow-driven one at the inflow it finds, but for the `stock` field
  inflowDriven_outflow it n _ sf t j

/-- stock(t) − stock(t−1) = dt(t)·(inflow(t) − outflow(t)) for the prescribed stock and the inflow
and outflow the model finds — also when the stock implies negative inflow -/
theorem stockDriven_balance [Field K] (it : Nat → K) (n : Nat) (stock : Nat → Nat → K)
    (sf : Nat → Nat → Nat → K) (hlt : LowerTri sf) (hd : ∀ t j, t < n → sf t t j ≠ 0)
    (hdt : ∀ t, t < n → dt it n t ≠ 0) (t j : Nat) (ht : t < n) :
    let r := stockDriven it n stock sf
    r.stock t j - (if t = 0 then 0 else r.stock (t - 1) j)
      = dt it n t * (r.inflow t j - r.outflow t j) :=
  balance_of_cohort_sum it n _ stock sf hlt hdt j
    (fun s hs => (stockDriven_reproduces_stock it n stock sf hlt hd hdt s j hs).symm) t ht

/-! ## flow-driven stock -/

theorem flowDriven_balance [Field K] (it : Nat → K) (n : Nat) (inflow outflow : Nat → Nat → K) (t j : Nat) :
    flowDrivenStock it n inflow outflow t j
        - (if t = 0 then 0 else flowDrivenStock it n inflow outflow (t - 1) j)
      = dt it n t * (inflow t j - outflow t j) := by
  unfold flowDrivenStock
  simp only [sumRange_eq, toWholePeriod_apply]
  cases t with
  | zero => rw [if_pos rfl, sum_range_one, sub_zero, mul_comm]
  | succ t =>
    rw [if_neg t.succ_ne_zero, Nat.add_sub_cancel, sum_range_succ _ (t + 1), add_sub_cancel_left, mul_comm]

/-! ## get_stock_balance / check_stock_balance -/

/-- the balance array vanishes on every stock whose change equals dt·(inflow − outflow) -/
theorem stockBalance_zero_of_balance [Field K] (it : Nat → K) (n : Nat) (stock inflow outflow : Nat → Nat → K)
    (t j : Nat)
    (h : stock t j - (if t = 0 then 0 else stock (t - 1) j) = dt it n t * (inflow t j - outflow t j)) :
    stockBalance it n stock inflow outflow t j = 0 := by
  rw [stockBalance, toWholePeriod_apply, h, mul_comm, sub_self]

theorem stockBalance_inflowDriven [Field K] (it : Nat → K) (n : Nat) (inflow : Nat → Nat → K)
    (sf : Nat → Nat → Nat → K) (hlt : LowerTri sf) (hdt : ∀ t, t < n → dt it n t ≠ 0)
    (t j : Nat) (ht : t < n) :
    let r := inflowDriven it n inflow sf
    stockBalance it n r.stock r.inflow r.outflow t j = 0 :=
  stockBalance_zero_of_balance it n _ _ _ t j (inflowDriven_balance it n inflow sf hlt hdt t j ht)

theorem stockBalance_stockDriven [Field K] (it : Nat → K) (n : Nat) (stock : Nat → Nat → K)
    (sf : Nat → Nat → Nat → K) (hlt : LowerTri sf) (hd : ∀ t j, t < n → sf t t j ≠ 0)
    (hdt : ∀ t, t < n → dt it n t ≠ 0) (t j : Nat) (ht : t < n) :
    let r := stockDriven it n stock sf
    stockBalance it n r.stock r.inflow r.outflow t j = 0 :=
  stockBalance_zero_of_balance it n _ _ _ t j (stockDriven_balance it n stock sf hlt hd hdt t j ht)

theorem stockBalance_flowDriven [Field K] (it : Nat → K) (n : Nat) (inflow outflow : Nat → Nat → K) (t j : Nat) :
    stockBalance it n (flowDrivenStock it n inflow outflow) inflow outflow t j = 0 :=
  stockBalance_zero_of_balance it n _ _ _ t j (flowDriven_balance it n inflow outflow t j)

/-- perturbing one stock entry by δ lowers the balance at that step by δ (in any field) -/
theorem stockBalance_perturbed [Field K] (it : Nat → K) (n : Nat) (stock inflow outflow : Nat → Nat → K)
    (t j : Nat) (δ : K) :
    stockBalance it n (fun s k => if s = t ∧ k = j then stock s k + δ else stock s k) inflow outflow t j
      = stockBalance it n stock inflow outflow t j - δ := by
  -- the entry before `(t, j)` is not perturbed
  have hprev : (if t = 0 then (0 : K) else if t - 1 = t ∧ j = j then stock (t - 1) j + δ else stock (t - 1) j)
      = if t = 0 then 0 else stock (t - 1) j :=
    ite_congr rfl (fun _ => rfl) fun h0 => if_neg fun h => (Nat.sub_one_lt h0).ne h.1
  unfold stockBalance
  beta_reduce
  rw [if_pos ⟨rfl, rfl⟩, hprev, add_sub_right_comm, sub_add_eq_sub_sub]

section order
variable [Field K] [LinearOrder K] [IsStrictOrderedRing K]

/-- the check accepts every array whose balance vanishes (in particular every computed stock) -/
theorem check_accepts_balanced (thrRaise thrNote : K) (hn : 0 ≤ thrNote) (hr : 0 ≤ thrRaise)
    (n m : Nat) (bal : Nat → Nat → K) (h : ∀ t j, t < n → j < m → bal t j = 0) :
    checkStockBalance thrRaise thrNote n m bal = .ok := by
  -- the aggregate is below every non-negative threshold
  have hagg (b : K) (hb : 0 ≤ b) : ¬ b < balanceAggregate n m bal :=
    not_lt.2 <| (balanceAggregate_le_iff n m bal b).2 ⟨hb, fun j hj =>
      (sum_eq_zero fun t ht => by rw [h t j (mem_range.1 ht) hj, abs_zero]).trans_le hb⟩
  unfold checkStockBalance
  rw [if_neg (hagg _ hr), if_neg (hagg _ hn)]

/-- … and rejects one with an entry of the balance array beyond the threshold -/
theorem check_rejects_unbalanced (thrRaise thrNote : K) (n m : Nat) (bal : Nat → Nat → K)
    (t j : Nat) (ht : t < n) (hj : j < m) (hbig : thrRaise < |bal t j|) :
    checkStockBalance thrRaise thrNote n m bal = .raise := by
  have hcol : |bal t j| ≤ ∑ s ∈ range n, |bal s j| :=
    single_le_sum (fun s _ => abs_nonneg (bal s j)) (mem_range.2 ht)
  have hagg := ((balanceAggregate_le_iff n m bal _).1 le_rfl).2 j hj
  unfold checkStockBalance
  rw [if_pos (hbig.trans_le (hcol.trans hagg))]

/-- perturbing one stock entry of a balanced triple by δ makes the balance at that step −δ -/
theorem perturbed_stock_balance (it : Nat → K) (n : Nat) (stock inflow outflow : Nat → Nat → K)
    (t j : Nat) (δ : K) (h0 : stockBalance it n stock inflow outflow t j = 0) :
    stockBalance it n (fun s k => if s = t ∧ k = j then stock s k + δ else stock s k) inflow outflow t j = -δ := by
  rw [stockBalance_perturbed, h0, zero_sub]

end order

/-! ### the hypotheses are satisfiable: an uneven grid (the D1 witness) -/
def exIt : Nat → Rat
  | 0 => 2000 | 1 => 2001 | 2 => 2003 | 3 => 2007 | 4 => 2008 | 5 => 2012 | _ => 0
example : dt exIt 6 0 = 3/2 ∧ dt exIt 6 1 = 3/2 ∧ dt exIt 6 2 = 3 ∧ dt exIt 6 3 = 5/2 ∧ dt exIt 6 4 = 5/2
    ∧ dt exIt 6 5 = 5/2 := by
  decide +kernel

end Flodym.C03
