import FlodymProofs.Props.C03
/-!
# C09 — cohort tables add up to the totals and each cohort is conserved

For the inflow-driven and the stock-driven model alike (both build their tables from the inflow,
the survival table and the interval lengths), on any time grid.
-/
open Finset BigOperators
namespace Flodym.C09
open Flodym Flodym.DSM

variable {K : Type} [Field K]

/-! ## inflow-driven -/

theorem inflowDriven_tables (it : Nat → K) (n : Nat) (inflow : Nat → Nat → K)
    (sf : Nat → Nat → Nat → K) (hlt : LowerTri sf) (t j : Nat) :
    let r := inflowDriven it n inflow sf
    r.stock t j = ∑ c ∈ range n, r.stockByCohort t c j ∧
    r.outflow t j = ∑ c ∈ range n, r.outflowByCohort t c j ∧
    (∀ c, t < c → r.stockByCohort t c j = 0 ∧ r.outflowByCohort t c j = 0) ∧
    (∀ c, r.stockByCohort t c j = inflow c j * dt it n c * sf t c j) := by
  simp only [inflowDriven_stock, inflowDriven_outflow, inflowDriven_sbc, inflowDriven_obc, true_and,
    implies_true, and_true]
  -- the first, second and fourth clause are the closed forms themselves; what remains is the third
  intro c hc
  rw [hlt t c j hc, pdfTable_of_lt sf t c j hc, mul_zero, zero_div]
  exact ⟨rfl, rfl⟩

/-- what entered a cohort = what is still in stock + what has left so far (rates × lengths) -/
theorem inflowDriven_cohort_conservation (it : Nat → K) (n : Nat) (inflow : Nat → Nat → K)
    (sf : Nat → Nat → Nat → K) (hlt : LowerTri sf) (hdt : ∀ t, t < n → dt it n t ≠ 0)
    (t c j : Nat) (hct : c ≤ t) (ht : t < n) :
    let r := inflowDriven it n inflow sf
    inflow c j * dt it n c
      = r.stockByCohort t c j + ∑ s ∈ range (t + 1), r.outflowByCohort s c j * dt it n s := by
  simp only [inflowDriven_sbc]
  rw [sum_congr rfl fun s hs => inflowDriven_obc_mul_dt it n inflow sf s c j
      (hdt s (Nat.lt_of_lt_of_le (mem_range.1 hs) ht)),
    ← mul_sum, pdf_cumsum hlt c j t, if_pos hct, ← mul_add, add_sub_cancel, mul_one]

section order
variable [LinearOrder K] [IsStrictOrderedRing K]

/-- a cohort's stock never increases over time for non-negative inflow -/
theorem inflowDriven_cohort_antitone (it : Nat → K) (n : Nat) (inflow : Nat → Nat → K)
    (sf : Nat → Nat → Nat → K) (c j : Nat) (hin : 0 ≤ inflow c j) (hdt : 0 ≤ dt it n c)
    (hsf : ∀ t, c ≤ t → sf (t + 1) c j ≤ sf t c j) (t : Nat) (hct : c ≤ t) :
    (inflowDriven it n inflow sf).stockByCohort (t + 1) c j
      ≤ (inflowDriven it n inflow sf).stockByCohort t c j := by
  rw [inflowDriven_sbc, inflowDriven_sbc]
  exact mul_le_mul_of_nonneg_left (hsf t hct) (mul_nonneg hin hdt)

end order

/-! ## stock-driven

`stockDriven it n stock sf` is by definition (`rfl`) the record `inflowDriven it n i sf` for the inflow `i`
it finds, with the prescribed stock in place of the computed one: so its tables are the inflow-driven ones
at `i`. -/

theorem stockDriven_sbc (it : Nat → K) (n : Nat) (stock : Nat → Nat → K) (sf : Nat → Nat → Nat → K)
    (t c j : Nat) :
    (stockDriven it n stock sf).stockByCohort t c j
      = (stockDriven it n stock sf).inflow c j * dt it n c * sf t c j :=
  inflowDriven_sbc it n _ sf t c j

theorem stockDriven_obc (it : Nat → K) (n : Nat) (stock : Nat → Nat → K) (sf : Nat → Nat → Nat → K)
    (t c j : Nat) :
    (stockDriven it n stock sf).outflowByCohort t c j
      = (stockDriven it n stock sf).inflow c j * dt it n c * pdfTable sf t c j / dt it n t :=
  inflowDriven_obc it n _ sf t c j

theorem stockDriven_tables (it : Nat → K) (n : Nat) (stock : Nat → Nat → K)
    (sf : Nat → Nat → Nat → K) (hlt : LowerTri sf) (hd : ∀ t j, t < n → sf t t j ≠ 0)
    (hdt : ∀ t, t < n → dt it n t ≠ 0) (t j : Nat) (ht : t < n) :
    let r := stockDriven it n stock sf
    r.stock t j = ∑ c ∈ range n, r.stockByCohort t c j ∧
    r.outflow t j = ∑ c ∈ range n, r.outflowByCohort t c j ∧
    (∀ c, t < c → r.stockByCohort t c j = 0 ∧ r.outflowByCohort t c j = 0) := by
  obtain ⟨h1, h2, h3, _⟩ := inflowDriven_tables it n (stockDriven it n stock sf).inflow sf hlt t j
  exact ⟨(C03.stockDriven_reproduces_stock it n stock sf hlt hd hdt t j ht).symm.trans
    ((inflowDriven_stock it n _ sf t j).symm.trans h1), h2, h3⟩

theorem stockDriven_cohort_conservation (it : Nat → K) (n : Nat) (stock : Nat → Nat → K)
    (sf : Nat → Nat → Nat → K) (hlt : LowerTri sf) (hdt : ∀ t, t < n → dt it n t ≠ 0)
    (t c j : Nat) (hct : c ≤ t) (ht : t < n) :
    let r := stockDriven it n stock sf
    r.inflow c j * dt it n c
      = r.stockByCohort t c j + ∑ s ∈ range (t + 1), r.outflowByCohort s c j * dt it n s :=
  inflowDriven_cohort_conservation it n (stockDriven it n stock sf).inflow sf hlt hdt t c j hct ht

end Flodym.C09
