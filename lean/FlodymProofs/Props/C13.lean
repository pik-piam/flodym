import FlodymProofs.Lemmas.Store
import FlodymProofs.Lemmas.GetSet
/-!
# C13 — arrays always have the shape of their dimensions; failed calls change nothing

`WF x` : pairwise distinct dimension letters and `values.shape` = the lengths of the dimensions in
order. Every public operation of the model ends in the constructor (`FArr.mk?`, which pydantic's
validators implement) or keeps dims and shape (`setitem?`), so whatever it returns is well formed;
a call that raises leaves the store as it was; hence the invariant holds in every store reachable
by any sequence of successful and failed calls. Core Lean only.
-/
namespace Flodym.C13
open Flodym DimSet SubArray

variable {α : Type}

/-- the constructor accepts exactly distinct letters with a values array of the dimensions' shape -/
theorem constructor_accepts_iff (dims : DimSet) (v : ND α) :
    (∃ r, FArr.mk? dims v = some r) ↔ ((letters dims).Nodup ∧ v.shape = DimSet.shape dims) :=
  ⟨fun ⟨_, h⟩ => (of_ite_eq_some h).1,
   fun ⟨h1, h2⟩ => ⟨_, FArr.mk?_eq_some h1 h2⟩⟩

/-- … and never broadcasts, transposes or stores anything else: what it returns is what was given -/
theorem constructor_stores_as_given (dims : DimSet) (v : ND α) (r : FArr α) (h : FArr.mk? dims v = some r) :
    r.dims = dims ∧ r.values = v ∧ WF r := by
  obtain ⟨rfl, h2⟩ := FArr.mk?_wf h
  exact ⟨rfl, rfl, h2⟩

/-- `set_values(ndarray)` / whole-array assignment: any other shape is rejected -/
theorem set_values_rejects_other_shape (x : FArr α) (v : ND α) (h : v.shape ≠ DimSet.shape x.dims) :
    FArr.mk? x.dims v = none :=
  if_neg fun hh => h hh.2

/-! ## every operation returns well-formed arrays -/

section ops
variable [Add α] [OfNat α 0]

theorem sumTo_wf (x r : FArr α) (ks : List FArr.DimKey) (h : x.sumTo? ks = some r) : WF r :=
  bind_yields (fun _ => bind_yields fun _ => bind_yields fun _ => FArr.mk?_yields_wf) r h

theorem sumOver_wf (x r : FArr α) (ks : List FArr.DimKey) (h : x.sumOver? ks = some r) : WF r :=
  bind_yields (fun _ => bind_yields fun _ => bind_yields fun _ => bind_yields fun _ => FArr.mk?_yields_wf) r h

theorem castTo_wf (x r : FArr α) (T : DimSet) (h : x.castTo? T = some r) : WF r :=
  bind_yields (fun _ => FArr.mk?_yields_wf) r h

theorem cumsum_wf (x r : FArr α) (l : Char) (h : x.cumsum? l = some r) : WF r :=
  ite_yields FArr.mk?_yields_wf none_yields r h

theorem getitem_wf (x r : FArr α) (key : Key) (h : x.getitem? key = some r) : WF r :=
  bind_yields (fun _ => ite_yields none_yields (bind_yields fun _ => FArr.mk?_yields_wf)) r h

variable [Mul α] [OfNat α 1]

theorem addLike_wf (f : α → α → α) (x r : FArr α) (o : FArr.Operand α) (h : FArr.addLike? f x o = some r) :
    WF r :=
  bind_yields (fun _ => bind_yields fun _ => bind_yields fun _ => bind_yields fun _ => FArr.mk?_yields_wf) r h

theorem mul_wf (x r : FArr α) (o : FArr.Operand α) (h : FArr.mul? x o = some r) : WF r :=
  bind_yields (fun _ => bind_yields fun _ => bind_yields fun _ => FArr.mk?_yields_wf) r h

theorem div_wf [Div α] (x r : FArr α) (o : FArr.Operand α) (h : FArr.div? x o = some r) : WF r :=
  bind_yields (fun _ => bind_yields fun _ => bind_yields fun _ => FArr.mk?_yields_wf) r h

theorem mapValues_wf [Neg α] [Div α] (f : α → α) (x r : FArr α) (h : FArr.mapValues? f x = some r) : WF r :=
  FArr.mk?_yields_wf r h

theorem full_wf (dims : DimSet) (c : α) (r : FArr α) (h : FArr.full? dims c = some r) : WF r :=
  FArr.mk?_yields_wf r h

/-- assignment through `[]` keeps the target well formed (dims and shape never change) -/
theorem setitem_wf (x r : FArr α) (hx : WF x) (key : Key) (rhs : FArr.Rhs α)
    (h : x.setitem? key rhs = some r) : WF r ∧ r.dims = x.dims := by
  have hmk {v : ND α} : ∀ r, FArr.mk? x.dims v = some r → WF r ∧ r.dims = x.dims := fun r h =>
    have ⟨hd, _, hw⟩ := constructor_stores_as_given x.dims v r h
    ⟨hw, hd⟩
  revert r
  refine bind_yields fun _ => bind_yields fun _ => ?_
  cases rhs with
  | arr y => exact bind_yields fun _ => bind_yields fun _ => FArr.indexSet_yields_wf hx
  | num c => exact FArr.indexSet_yields_wf hx
  | nd v => exact ite_yields hmk (bind_yields fun _ => FArr.indexSet_yields_wf hx)

/-- whole-array assignment under every spelling of "the whole array" (`...`, `{}`, `()`) goes through
`set_values` in the code as it stands (regenerated from `__setitem__`): an ndarray of another shape is
rejected, never broadcast (D31 before the repair) -/
theorem source_whole_array_keys : Gen.emptyKeyIsWholeArray = true := rfl

/-- under such a key an ndarray is stored only as a well-formed array over the same dimensions -/
theorem setitem_whole_nd_exact (x r : FArr α) (key : Key) (v : ND α)
    (hk : key.whole Gen.emptyKeyIsWholeArray = true) (h : x.setitem? key (.nd v) = some r) :
    r.dims = x.dims ∧ r.values = v ∧ v.shape = DimSet.shape x.dims := by
  revert r
  refine bind_yields fun _ => bind_yields fun _ r h => ?_
  obtain ⟨rfl, hw⟩ := FArr.mk?_wf ((if_pos hk).symm.trans h)
  exact ⟨rfl, rfl, hw.2⟩

end ops

/-! ## histories: the invariant survives any sequence of successful and failed calls -/

/-- every array in the store is well formed -/
def AllWF (s : SStore α) : Prop := ∀ h x, s.get? h = some x → WF x

/-- an operation only ever yields well-formed arrays (true of every public operation, see above) -/
def Sound : SOp α → Prop
  | .new _ f => ∀ s x, AllWF s → f s = some x → WF x
  | .assign _ f => ∀ x s x', WF x → AllWF s → f x s = some x' → WF x'

theorem put_allWF (s : SStore α) (h : Nat) (x : FArr α) (hs : AllWF s) (hx : WF x) : AllWF (s.put h x) := by
  intro h' y hy
  rw [SStore.get?_put] at hy
  split at hy
  · cases hy; exact hx
  · exact hs h' y hy

/-- a call that raises leaves every array exactly as it was -/
theorem failed_call_changes_nothing (s : SStore α) (h : Nat) (f : SStore α → Option (FArr α))
    (g : FArr α → SStore α → Option (FArr α)) :
    (f s = none → s.step (.new h f) = s) ∧
    ((∀ x, s.get? h = some x → g x s = none) → s.step (.assign h g) = s) := by
  refine ⟨fun hf => ?_, fun hg => ?_⟩ <;> dsimp only [SStore.step]
  · rw [hf]
  · cases hx : s.get? h with
    | none => rfl
    | some x => dsimp only; rw [hg x hx]

theorem step_invariant (s : SStore α) (op : SOp α) (hs : AllWF s) (hop : Sound op) : AllWF (s.step op) := by
  cases op with
  | new h f =>
    dsimp only [SStore.step]
    cases hf : f s with
    | none => exact hs
    | some x => exact put_allWF s h x hs (hop s x hs hf)
  | assign h g =>
    dsimp only [SStore.step]
    cases hx : s.get? h with
    | none => exact hs
    | some x =>
      dsimp only
      cases hg : g x s with
      | none => exact hs
      | some x' => exact put_allWF s h x' hs (hop x s x' (hs h x hx) hs hg)

/-- **every reachable store satisfies the invariant** -/
theorem history_invariant (ops : List (SOp α)) (s : SStore α) (hs : AllWF s) (hops : ∀ op ∈ ops, Sound op) :
    AllWF (s.run ops) :=
  List.foldlRecOn ops SStore.step hs fun s hs op hop => step_invariant s op hs (hops op hop)

theorem empty_store_ok : AllWF ({} : SStore α) :=
  fun _ _ hx => nomatch hx

/-! ## stocks and lifetime models -/

/-- the validators as they stand in the source compare whole dimension sets and require the time
dimension first — for stocks and for lifetime models (regenerated from the AST on every run) -/
theorem source_validators : Gen.stockValidatorComparesFullDims = true ∧ Gen.lifetimeRequiresTimeFirst = true :=
  ⟨rfl, rfl⟩

/-- a stock accepts only arrays and lifetime models over exactly its own dimensions, time first -/
theorem stock_accepts_only_matching (dims : DimSet) (t : Char) (arrs lms : List DimSet)
    (h : stockAccepts dims t arrs lms = true) :
    (∀ d ∈ arrs, d = dims) ∧ (∀ d ∈ lms, d = dims) ∧ (letters dims).head? = some t := by
  unfold stockAccepts at h
  simp only [source_validators.1, if_true, Bool.and_eq_true, List.all_eq_true, beq_iff_eq] at h
  exact ⟨h.1.1.1, h.1.1.2, h.1.2⟩

theorem lifetime_requires_time_first (dims : DimSet) (t : Char) (ia : String)
    (h : lifetimeAccepts dims t ia = true) : (letters dims).head? = some t := by
  unfold lifetimeAccepts at h
  simp only [source_validators.2, Bool.not_true, Bool.or_false, Bool.and_eq_true, beq_iff_eq] at h
  exact h.1.1

end Flodym.C13
