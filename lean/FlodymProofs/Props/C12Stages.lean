import FlodymProofs.Props.C12
/-!
# C12 (continued) — refusals by the stages before the placement

Whatever the recognition stages made of the frame (`Conv`: the frame and the dimensions identified so
far), a dimension with more than one item that has no column is refused, and so are several value
columns that match no dimension, or none at all. The last section is about a label that is no item (D30), which
the placement refuses.
-/
namespace Flodym.C12
open Flodym Flodym.Table DimSet

/-- **a missing column for a dimension with more than one item is refused** (and so is one for a
dimension without items); only single-item dimensions are filled in -/
theorem missing_column_refused (dims : DimSet) (c : Conv) (d : Dim) (hd : d ∈ dims)
    (hmiss : d.name ∉ c.dimCols) (hitems : d.items.length ≠ 1) :
    missingDims? dims c = none := by
  refine foldlM_eq_none _ d (fun c0 => ?_) _ (List.mem_filter.mpr ⟨hd, not_contains_eq_true_iff.mpr hmiss⟩) c
  match h : d.items with
  | [] | _ :: _ :: _ => rfl
  | [_] => rw [h] at hitems; exact absurd rfl hitems

/-- **several value columns that match no dimension are refused** -/
theorem several_value_columns_refused (dims : DimSet) (c : Conv) (v1 v2 : Cell) (rest : List Cell)
    (hv : c.df.cols.filter (fun col => !(isDimCol c.dimCols col)) = v1 :: v2 :: rest)
    (hno : ∀ d ∈ dims, sameItems (v1 :: v2 :: rest) d = false) :
    valueColumns? dims c = none := by
  unfold valueColumns?
  have hfind : dims.find? (sameItems (v1 :: v2 :: rest)) = none :=
    List.find?_eq_none.mpr fun d hd => Bool.eq_false_iff.mp (hno d hd)
  simp only [hv, hfind]

/-- no value column at all is refused as well (unless a dimension has no items) -/
theorem no_value_column_refused (dims : DimSet) (c : Conv)
    (hv : c.df.cols.filter (fun col => !(isDimCol c.dimCols col)) = [])
    (hno : ∀ d ∈ dims, d.items ≠ []) :
    valueColumns? dims c = none := by
  unfold valueColumns?
  have hfind : dims.find? (sameItems []) = none :=
    List.find?_eq_none.mpr fun d hd => Bool.eq_false_iff.mp <| by
      obtain ⟨x, xs, hi⟩ := List.exists_cons_of_ne_nil (hno d hd)
      unfold sameItems
      rw [hi]
      cases d.dtype <;> rfl
  simp only [hv, hfind]

/-! ## a label that is no item: fractional numbers in a column of an integer-typed dimension (D30) -/

/-- the code as it stands keeps such a label as it is (regenerated from `_as_item`) -/
theorem source_keeps_fractional_labels : Gen.convertKeepsFractionalLabels = true := by decide

/-- `_convert_type` does not turn 2000.75 into the item 2000 -/
theorem fractional_label_kept (d : Dim) (q : Rat) (hd : d.dtype = some .int) (hq : q.den ≠ 1) :
    convLabel d (.num q true) = some (.num q true) := by
  unfold convLabel keepsLabel
  rw [hd]
  simp [source_keeps_fractional_labels, hq]

/-- … and it is not an item of a dimension whose items are integers -/
theorem fractional_label_unknown (d : Dim) (q : Rat) (hv : d.valid = true) (hd : d.dtype = some .int)
    (hq : q.den ≠ 1) : itemPos? d (.num q true) = none := by
  refine itemPos?_eq_none d _ fun it hit => ?_
  have ht := hasType_of_valid hv hd hit
  cases it with
  | str s => cases ht
  | int i =>
    refine beq_eq_false_iff_ne.mpr fun h => hq ?_
    rw [← h]
    exact Rat.den_intCast i

/-- **a row carrying a fractional label in an integer-typed dimension is refused** (default
`allow_extra_values=False`), whatever else the table holds: the label is converted to itself
(`fractional_label_kept`), is no item, and `unknown_item_refused` applies -/
theorem fractional_label_refused (d : Dim) (q : Rat) (hv : d.valid = true) (hd : d.dtype = some .int)
    (hq : q.den ≠ 1) (t : LongTable) (m : Bool) (v : Option Rat) (hr : ([.num q true], v) ∈ t.rows) :
    complete? [d] t m false = none := by
  apply unknown_item_refused [d] t m ([.num q true], v) hr
  simp [rowKnown, fractional_label_unknown d q hv hd hq]

/-- non-vacuity: 2000.75 in the column of time = (2000, 2001) -/
example :
    let d : Dim := { letter := 't', name := "time", items := [.int 2000, .int 2001], dtype := some .int }
    d.valid = true ∧ ((8003 : Rat) / 4).den ≠ 1 ∧ convLabel d (.num (8003 / 4) true) = some (.num (8003 / 4) true) ∧
    complete? [d] ⟨[([.num (8003 / 4) true], some 1), ([.num 2001 false], some 2)]⟩ false false = none := by
  decide +kernel

end Flodym.C12
