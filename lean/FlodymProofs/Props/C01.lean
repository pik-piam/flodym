import FlodymProofs.Lemmas.Arith
import FlodymProofs.Lemmas.Cast
import Mathlib.Algebra.Field.Basic
import Mathlib.Order.Defs.LinearOrder
/-!
# C01 — arithmetic between arrays matches dimensions by label, never by axis position

All theorems quantify over arbitrary dimension lists (any number of dimensions, any lengths
including 1 and 0-d, any storage order of either operand) and arbitrary values of the stated
algebraic structure (in particular ℝ). `r.at e` is the entry of `r` under the labels chosen by `e`;
`margin x L e` is `x` summed over its dimensions whose letters are not in `L`.
The model functions unfold to the einsum subscripts regenerated from the source (`FlodymGen`).
-/
namespace Flodym.C01
open Flodym DimSet

variable {α : Type}

/-- x+y, x-y: over the dimensions common to both (x's order); each operand summed over its other
dimensions, then combined. -/
theorem add_spec [Ring α] (x y : FArr α) (hx : WF x) (hy : WF y) (hc : Compatible x.dims y.dims) :
    ∃ r, FArr.addLike? (· + ·) x (.arr y) = some r ∧
      r.dims = x.dims.filter (fun d => (letters y.dims).contains d.letter) ∧ WF r ∧
      ∀ e, r.at e = margin x r.letters e + margin y r.letters e :=
  (addLike_arr_spec (· + ·) x y hx hy hc).own_letters (f := fun L e => margin x L e + margin y L e)

theorem sub_spec [Ring α] (x y : FArr α) (hx : WF x) (hy : WF y) (hc : Compatible x.dims y.dims) :
    ∃ r, FArr.addLike? (· - ·) x (.arr y) = some r ∧
      r.dims = x.dims.filter (fun d => (letters y.dims).contains d.letter) ∧ WF r ∧
      ∀ e, r.at e = margin x r.letters e - margin y r.letters e :=
  (addLike_arr_spec (· - ·) x y hx hy hc).own_letters (f := fun L e => margin x L e - margin y L e)

theorem minimum_spec [Ring α] [LinearOrder α] (x y : FArr α) (hx : WF x) (hy : WF y)
    (hc : Compatible x.dims y.dims) :
    ∃ r, FArr.addLike? min x (.arr y) = some r ∧
      r.dims = x.dims.filter (fun d => (letters y.dims).contains d.letter) ∧ WF r ∧
      ∀ e, r.at e = min (margin x r.letters e) (margin y r.letters e) :=
  (addLike_arr_spec min x y hx hy hc).own_letters (f := fun L e => min (margin x L e) (margin y L e))

theorem maximum_spec [Ring α] [LinearOrder α] (x y : FArr α) (hx : WF x) (hy : WF y)
    (hc : Compatible x.dims y.dims) :
    ∃ r, FArr.addLike? max x (.arr y) = some r ∧
      r.dims = x.dims.filter (fun d => (letters y.dims).contains d.letter) ∧ WF r ∧
      ∀ e, r.at e = max (margin x r.letters e) (margin y r.letters e) :=
  (addLike_arr_spec max x y hx hy hc).own_letters (f := fun L e => max (margin x L e) (margin y L e))

/-- x*y: over the union of the dimensions (x's first, then y's new ones); every entry is the
product of the two entries carrying those labels. -/
theorem mul_spec [Ring α] (x y : FArr α) (hx : WF x) (hy : WF y) (hc : Compatible x.dims y.dims) :
    ∃ r, FArr.mul? x (.arr y) = some r ∧
      r.dims = x.dims ++ y.dims.filter (fun d => !((letters x.dims).contains d.letter)) ∧ WF r ∧
      ∀ e, r.at e = x.at e * y.at e :=
  mul_arr_spec x y hx hy hc

/-- x/y: same dimensions as x*y; the quotient of the two entries (stated where the divisor entry
is non-zero; numpy's inf/nan for a zero divisor is numpy's behaviour and not modelled). -/
theorem div_spec [Field α] (x y : FArr α) (hx : WF x) (hy : WF y) (hc : Compatible x.dims y.dims) :
    ∃ r, FArr.div? x (.arr y) = some r ∧
      r.dims = x.dims ++ y.dims.filter (fun d => !((letters x.dims).contains d.letter)) ∧ WF r ∧
      ∀ e, y.at e ≠ 0 → r.at e = x.at e / y.at e := by
  obtain ⟨r, h1, h2, h3, h4⟩ := (div_arr_spec x y hx hy hc).congr fun e => mul_one_div _ _
  exact ⟨r, h1, h2, h3, fun e _ => h4 e⟩

/-- x**y keeps x's dimensions and requires y's to be among them (`powf` is numpy's elementwise
power, an uninterpreted function of the two entries). -/
theorem pow_spec [Ring α] (powf : α → α → α) (x y : FArr α) (hx : WF x) (hy : WF y)
    (hc : Compatible x.dims y.dims) (hsub : ∀ l ∈ y.letters, l ∈ x.letters) :
    ∃ r, FArr.pow? powf x (.arr y) = some r ∧ r.dims = x.dims ∧ WF r ∧
      ∀ e, Valid x.dims e → r.at e = powf (x.at e) (y.at e) :=
  pow_arr_spec powf x y hx hy hc hsub

theorem pow_rejects [Ring α] (powf : α → α → α) (x y : FArr α)
    (h : ∃ l ∈ y.letters, l ∉ x.letters) : FArr.pow? powf x (.arr y) = none := by
  obtain ⟨l, hl, hn⟩ := h
  have hany : y.letters.any (fun l => !(x.letters.contains l)) = true :=
    List.any_eq_true.mpr ⟨l, hl, not_contains_eq_true_iff.mpr hn⟩
  unfold FArr.pow? FArr.prepareOther?
  simp only [Option.bind_eq_bind, Option.bind_some]
  rw [hany]; rfl

/-- A plain number behaves as an array of x's own dimensions filled with that number. -/
theorem number_as_full [Ring α] (x : FArr α) (hx : WF x) (c : α) :
    ∃ n, x.prepareOther? (.num c) = some n ∧ n.dims = x.dims ∧ WF n ∧ ∀ e, n.at e = c :=
  (ofNumber?_spec x hx.1 c).congr fun _ => mul_one c

theorem add_num_spec [Ring α] (x : FArr α) (hx : WF x) (c : α) :
    ∃ r, FArr.addLike? (· + ·) x (.num c) = some r ∧ r.dims = x.dims ∧ WF r ∧
      ∀ e, r.at e = x.at e + c :=
  (addLike_num_spec (· + ·) x hx c).congr fun e => by rw [mul_one]

theorem sub_num_spec [Ring α] (x : FArr α) (hx : WF x) (c : α) :
    ∃ r, FArr.addLike? (· - ·) x (.num c) = some r ∧ r.dims = x.dims ∧ WF r ∧
      ∀ e, r.at e = x.at e - c :=
  (addLike_num_spec (· - ·) x hx c).congr fun e => by rw [mul_one]

theorem min_num_spec [Ring α] [LinearOrder α] (x : FArr α) (hx : WF x) (c : α) :
    ∃ r, FArr.addLike? min x (.num c) = some r ∧ r.dims = x.dims ∧ WF r ∧
      ∀ e, r.at e = min (x.at e) c :=
  (addLike_num_spec min x hx c).congr fun e => by rw [mul_one]

theorem max_num_spec [Ring α] [LinearOrder α] (x : FArr α) (hx : WF x) (c : α) :
    ∃ r, FArr.addLike? max x (.num c) = some r ∧ r.dims = x.dims ∧ WF r ∧
      ∀ e, r.at e = max (x.at e) c :=
  (addLike_num_spec max x hx c).congr fun e => by rw [mul_one]

theorem mul_number_spec [Ring α] (x : FArr α) (hx : WF x) (c : α) :
    ∃ r, FArr.mul? x (.num c) = some r ∧ r.dims = x.dims ∧ WF r ∧ ∀ e, r.at e = x.at e * c :=
  (mul_num_spec x hx c).congr fun e => by rw [mul_one]

theorem div_number_spec [Field α] (x : FArr α) (hx : WF x) (c : α) (_hc : c ≠ 0) :
    ∃ r, FArr.div? x (.num c) = some r ∧ r.dims = x.dims ∧ WF r ∧ ∀ e, r.at e = x.at e / c :=
  (div_num_spec x hx c).congr fun e => by rw [mul_one, mul_one_div]

/-- reflected position: `c + x`, `c - x`, `c * x`, `c / x` -/
theorem radd_spec [Ring α] (x : FArr α) (hx : WF x) (c : α) :
    ∃ r, FArr.radd? x c = some r ∧ r.dims = x.dims ∧ WF r ∧ ∀ e, r.at e = c + x.at e :=
  (addLike_num_spec (· + ·) x hx c).congr fun e => by rw [mul_one]; exact add_comm _ _

theorem rsub_spec [Ring α] (x : FArr α) (hx : WF x) (c : α) :
    ∃ r, FArr.rsub? x c = some r ∧ r.dims = x.dims ∧ WF r ∧ ∀ e, r.at e = c - x.at e :=
  (neg_spec x hx).bind fun nx hd hn hat =>
    ((addLike_num_spec (· + ·) nx hn c).dims_eq hd).congr fun e => by
      rw [hat, mul_one]; exact neg_add_eq_sub _ _

theorem rmul_spec [CommRing α] (x : FArr α) (hx : WF x) (c : α) :
    ∃ r, FArr.rmul? x c = some r ∧ r.dims = x.dims ∧ WF r ∧ ∀ e, r.at e = c * x.at e :=
  (mul_num_spec x hx c).congr fun e => by rw [mul_one, mul_comm]

theorem rdiv_spec [Field α] (x : FArr α) (hx : WF x) (c : α) :
    ∃ r, FArr.rdiv? x c = some r ∧ r.dims = x.dims ∧ WF r ∧
      ∀ e, x.at e ≠ 0 → r.at e = c / x.at e := by
  obtain ⟨r, h1, h2, h3, h4⟩ :=
    (mapValues_spec (fun a => (1 : α) / a) x hx).bind (g := fun e => c / x.at e) fun ix hd hi hat =>
      ((mul_num_spec ix hi c).dims_eq hd).congr fun e => by
        rw [hat, mul_one, one_div_mul_eq_div]
  exact ⟨r, h1, h2, h3, fun e _ => h4 e⟩

/-- unary minus, abs and sign act entry by entry -/
theorem neg_entrywise [Ring α] (x : FArr α) (hx : WF x) :
    ∃ r, FArr.neg? x = some r ∧ r.dims = x.dims ∧ WF r ∧ ∀ e, r.at e = -(x.at e) :=
  neg_spec x hx

theorem elementwise_spec (f : α → α) (x : FArr α) (hx : WF x) :
    ∃ r, FArr.mapValues? f x = some r ∧ r.dims = x.dims ∧ WF r ∧ ∀ e, r.at e = f (x.at e) :=
  mapValues_spec f x hx

/-! ### the hypotheses are satisfiable by non-trivial states (incl. 0-d and single-item dims) -/

def dA : Dim := { letter := 'a', name := "aa", items := [.int 1, .int 2] }
def dB : Dim := { letter := 'b', name := "bb", items := [.str "x", .str "y"] }
def dC : Dim := { letter := 'c', name := "cc", items := [.str "p"] }
def exX : FArr Int := ⟨[dB, dA], ND.ofFlat [2, 2] #[1, 2, 3, 4] 0⟩
def exY : FArr Int := ⟨[dA, dC, dB], ND.ofFlat [2, 1, 2] #[5, 6, 7, 8] 0⟩
def exS : FArr Int := ⟨[], ND.ofFlat [] #[9] 0⟩

example : WF exX ∧ WF exY ∧ WF exS ∧ Compatible exX.dims exY.dims ∧ Compatible exS.dims exY.dims := by
  decide +kernel

end Flodym.C01
