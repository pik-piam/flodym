import FlodymProofs.Lemmas.DSM
/-!
# C16 — dynamic stock models are causal, linear and independent across labels
-/
open Finset BigOperators
namespace Flodym.C16
open Flodym Flodym.DSM

variable {K : Type} [Field K]

/-! ## causality -/

/-- inflow-driven: results at step t depend only on the inflow at steps ≤ t -/
theorem inflowDriven_causal (it : Nat → K) (n : Nat) (i i' : Nat → Nat → K) (sf : Nat → Nat → Nat → K)
    (hlt : LowerTri sf) (t j : Nat) (ht : t < n) (h : ∀ s, s ≤ t → i s j = i' s j) :
    let a := inflowDriven it n i sf
    let b := inflowDriven it n i' sf
    a.stock t j = b.stock t j ∧ a.outflow t j = b.outflow t j ∧
    ∀ c, c ≤ t → a.stockByCohort t c j = b.stockByCohort t c j ∧
                 a.outflowByCohort t c j = b.outflowByCohort t c j := by
  simp only [inflowDriven_stock, inflowDriven_outflow, inflowDriven_sbc, inflowDriven_obc]
  -- cohorts after `t` contribute nothing, whatever their inflow
  have key (c : Nat) (x : K) (hx : t < c → x = 0) : i c j * dt it n c * x = i' c j * dt it n c * x := by
    rcases Nat.lt_or_ge t c with hc | hc
    · rw [hx hc, mul_zero, mul_zero]
    · rw [h c hc]
  exact ⟨sum_congr rfl fun c _ => key c _ (hlt t c j),
    sum_congr rfl fun c _ => congrArg (· / dt it n t) (key c _ (pdfTable_of_lt sf t c j)),
    fun c hc => by rw [h c hc]; exact ⟨rfl, rfl⟩⟩

/-- stock-driven: the inflow found at step t depends only on the prescribed stock at steps ≤ t
(forward substitution only looks back) -/
theorem stockDriven_causal (n : Nat) (s s' : Nat → Nat → K) (sf : Nat → Nat → Nat → K) (j : Nat) :
    ∀ t, t < n → (∀ u, u ≤ t → s u j = s' u j) → sdInflowWP n s sf t j = sdInflowWP n s' sf t j := by
  intro t
  induction t using Nat.strong_induction_on with
  | _ t ih =>
    intro ht h
    rw [sdInflowWP_eq n s sf t j ht, sdInflowWP_eq n s' sf t j ht, h t (le_refl t)]
    exact congrArg (fun x => (s' t j - x) / sf t t j) <| sum_congr rfl fun c hc => by
      have hct : c < t := mem_range.1 hc
      rw [ih c hct (hct.trans ht) fun u hu => h u (Nat.le_of_lt (Nat.lt_of_le_of_lt hu hct))]

/-! ## linearity -/

/-- superposition and scaling of the inflow-driven model -/
theorem inflowDriven_linear (it : Nat → K) (n : Nat) (i i' : Nat → Nat → K) (a b : K)
    (sf : Nat → Nat → Nat → K) (t j : Nat) :
    let r := inflowDriven it n (fun t j => a * i t j + b * i' t j) sf
    let r1 := inflowDriven it n i sf
    let r2 := inflowDriven it n i' sf
    r.stock t j = a * r1.stock t j + b * r2.stock t j ∧
    r.outflow t j = a * r1.outflow t j + b * r2.outflow t j ∧
    ∀ c, r.stockByCohort t c j = a * r1.stockByCohort t c j + b * r2.stockByCohort t c j ∧
         r.outflowByCohort t c j = a * r1.outflowByCohort t c j + b * r2.outflowByCohort t c j := by
  simp only [inflowDriven_stock, inflowDriven_outflow, inflowDriven_sbc, inflowDriven_obc, mul_sum,
    ← sum_add_distrib]
  -- the totals are the sums of the cohort tables, which are linear entry by entry
  suffices hc : ∀ c, _ ∧ _ from ⟨sum_congr rfl fun c _ => (hc c).1, sum_congr rfl fun c _ => (hc c).2, hc⟩
  exact fun c => ⟨by ring, by ring⟩

/-- the stock-driven model is linear in the prescribed stock -/
theorem stockDriven_linear (n : Nat) (s s' : Nat → Nat → K) (a b : K) (sf : Nat → Nat → Nat → K)
    (hd : ∀ t j, t < n → sf t t j ≠ 0) (j : Nat) (t : Nat) (ht : t < n) :
    sdInflowWP n (fun t j => a * s t j + b * s' t j) sf t j
      = a * sdInflowWP n s sf t j + b * sdInflowWP n s' sf t j := by
  -- the combination of the two solutions solves the combined system, and that has one solution only
  refine (solution_unique n (fun t j => a * s t j + b * s' t j) sf hd
    (fun t j => a * sdInflowWP n s sf t j + b * sdInflowWP n s' sf t j) j (fun u hu => ?_) t ht).symm
  rw [← manual_solves n s sf hd u j hu, ← manual_solves n s' sf hd u j hu, mul_sum, mul_sum, ← sum_add_distrib]
  exact sum_congr rfl fun c _ => by rw [mul_add, mul_left_comm, mul_left_comm _ b]

/-! ## independence across labels -/

/-- every combination of non-time labels evolves exactly as if computed alone: the results at
label position j are those of the one-label model run on column j of the inputs -/
theorem inflowDriven_label_independent (it : Nat → K) (n : Nat) (i : Nat → Nat → K)
    (sf : Nat → Nat → Nat → K) (t j : Nat) :
    let all := inflowDriven it n i sf
    let alone := inflowDriven it n (fun t _ => i t j) (fun t c _ => sf t c j)
    all.stock t j = alone.stock t 0 ∧ all.outflow t j = alone.outflow t 0 ∧
    ∀ c, all.stockByCohort t c j = alone.stockByCohort t c 0 ∧
         all.outflowByCohort t c j = alone.outflowByCohort t c 0 := by
  simp only [inflowDriven_stock, inflowDriven_outflow, inflowDriven_sbc, inflowDriven_obc, pdfTable,
    implies_true, and_self]

theorem stockDriven_label_independent (n : Nat) (s : Nat → Nat → K) (sf : Nat → Nat → Nat → K) (t j : Nat) :
    sdInflowWP n s sf t j = sdInflowWP n (fun t _ => s t j) (fun t c _ => sf t c j) t 0 := by
  unfold sdInflowWP
  rw [manual_label_independent]

/-! ## calendar shifts -/

/-- shifting all time items by a constant shifts the bounds by it and changes neither the interval
lengths nor any age, hence no survival table and no result (`1 + 1 ≠ 0`: any field in which the
midpoint makes sense, e.g. ℝ) -/
theorem shift_invariant (it : Nat → K) (n : Nat) (k : K) (h2 : (1 + 1 : K) ≠ 0) :
    (∀ m, bounds (fun x => it x + k) n m = bounds it n m + k) ∧
    (∀ t, dt (fun x => it x + k) n t = dt it n t) ∧
    (∀ eta c t, age (fun x => it x + k) n eta c t = age it n eta c t) := by
  have hm : ∀ m, mid (fun x => it x + k) m = mid it m + k := fun m => by
    unfold mid; rw [div_add' _ _ _ h2, mul_add, mul_one, add_add_add_comm]
  have hb : ∀ m, bounds (fun x => it x + k) n m = bounds it n m + k := fun m => by
    unfold bounds
    -- `k` cancels in every difference of midpoints and moves out of each of the three branches
    simp only [hm, add_sub_add_right_eq_sub]
    rw [ite_add, ite_add, add_sub_right_comm, add_right_comm _ k]
  refine ⟨hb, fun t => ?_, fun eta c t => ?_⟩
  · unfold dt; rw [hb, hb, add_sub_add_right_eq_sub]
  · unfold age; rw [hb, hb, hb]; ring

/-! ## impulse response -/

/-- the stock response to a unit inflow rate in one cohort (and one label) is that cohort's column
of the survival table times its interval length; other labels stay untouched -/
theorem impulse_response (it : Nat → K) (n : Nat) (sf : Nat → Nat → Nat → K) (c0 j0 : Nat) (hc : c0 < n)
    (t j : Nat) :
    (inflowDriven it n (fun c j => if c = c0 ∧ j = j0 then 1 else 0) sf).stock t j
      = if j = j0 then sf t c0 j0 * dt it n c0 else 0 := by
  rw [inflowDriven_stock]
  by_cases hj : j = j0
  · subst hj
    rw [sum_eq_single_of_mem c0 (mem_range.2 hc) fun b _ hb => by rw [if_neg fun h => hb h.1, zero_mul, zero_mul],
      if_pos ⟨rfl, rfl⟩, if_pos rfl, one_mul, mul_comm]
  · rw [if_neg hj]
    exact sum_eq_zero fun c _ => by rw [if_neg fun h => hj h.2, zero_mul, zero_mul]

end Flodym.C16
