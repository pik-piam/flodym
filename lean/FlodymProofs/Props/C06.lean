import FlodymProofs.Props.C05
/-!
# C06 — indexing by item labels reads and writes exactly the addressed entries

`S'` lists, per dimension of `x` (in storage order), what the key asks of it (`DSel`):
`keep`, a single item at position `p`, or a subset `Dimension d'` whose items sit at positions `ps`.
`Decodes x.dims kvs … S'` says the dict entries `kvs` (given in any order, keyed by letter or name)
decode to `S'`; `liftIdx x.dims S' e` is the index tuple of the source entry carrying the labels
that the result labels `e` stand for. The proofs unfold the handler (`_init_dims_out`,
`_init_ids`, `_convert_lists_to_meshgrid`) and the model of numpy's placement rule for advanced
indices, for every combination of selector kinds in every position.
-/
namespace Flodym.C06
open Flodym DimSet SubArray

variable {α : Type}

/-- reading: dims = original with single selections dropped and subset selections replaced;
entries = exactly the addressed ones, in the remaining dimensions' order and the requested item
order -/
theorem getitem_reads_addressed (x : FArr α) (hx : WF x) (kvs : List (String × Sel)) (S' : List DSel)
    (hdec : Decodes x.dims kvs (x.dims.map fun _ => DSel.keep) S') (hok : SelsOK x.dims S') :
    ∃ r, x.getitem? (.dict kvs) = some r ∧ r.dims = outDims x.dims S' ∧ WF r ∧
      ∀ e, Valid r.dims e → r.at e = x.values.get (liftIdx x.dims S' e) := by
  obtain ⟨hh, hndo⟩ := handler_dict_spec x.dims hx.1 kvs S' hdec
  obtain ⟨p, hp, hps, hsrc⟩ := plan_spec x.dims S' hok
  refine ⟨⟨outDims x.dims S', { shape := p.shape, get := fun r => x.values.get (p.src r) }⟩,
    ?_, rfl, ⟨hndo, hps⟩, fun e hv => congrArg x.values.get (hsrc e hv)⟩
  unfold FArr.getitem? ND.index?
  simp only [Option.bind_eq_bind, hh, Option.bind_some, Bool.false_eq_true, if_false, hx.2, hp,
    Option.map_some]
  exact FArr.mk?_eq_some hndo hps

/-- writing a number: exactly the addressed entries change -/
theorem setitem_writes_addressed [Add α] [OfNat α 0] (x : FArr α) (hx : WF x)
    (kvs : List (String × Sel)) (S' : List DSel) (c : α)
    (hdec : Decodes x.dims kvs (x.dims.map fun _ => DSel.keep) S') (hok : SelsOK x.dims S') :
    ∃ r, x.setitem? (.dict kvs) (.num c) = some r ∧ r.dims = x.dims ∧ WF r ∧
      (∀ e, Valid (outDims x.dims S') e → r.values.get (liftIdx x.dims S' e) = c) ∧
      (∀ idx, (∀ e, Valid (outDims x.dims S') e → liftIdx x.dims S' e ≠ idx) →
        r.values.get idx = x.values.get idx) :=
  C05.setitem_number_fills x hx kvs S' c hdec hok

/-- the index tuple addressed for a kept / single / subset dimension, read off per dimension -/
theorem liftIdx_get : ∀ (D : DimSet) (S : List DSel) (e : Env) (i : Nat) (d : Dim),
    SelsOK D S → D[i]? = some d →
    (liftIdx D S e)[i]? = some (match S[i]? with
      | some DSel.keep => e d.letter
      | some (DSel.item p) => p
      | some (DSel.sub d' ps) => ps.getD (e d'.letter) 0
      | none => 0)
  | D, S, e, i, d, h, hD => by
    induction D, S, h using SelsOK.induction generalizing i with
    | nil => cases hD
    | keep _ _ _ _ ih => cases i with
      | zero => cases hD; rfl
      | succ i => exact ih i hD
    | item _ _ _ _ _ _ ih => cases i with
      | zero => rfl
      | succ i => exact ih i hD
    | sub _ _ _ _ _ _ _ ih => cases i with
      | zero => rfl
      | succ i => exact ih i hD

/-! ## key forms -/

/-- a single item key is the dict key of the dimension that holds the item -/
theorem single_item_key (x : FArr α) (it : Item) (l : Char)
    (h : keySingleItem? x.dims it = some l) :
    x.getitem? (.single it) = x.getitem? (.dict [(l.toString, .item it)]) := by
  simp only [FArr.getitem?, handler?, defDict?, h, Option.map_some]

/-- unknown items and items present in several dimensions are rejected when no dimension is named -/
theorem unknown_or_ambiguous_item_rejected (x : FArr α) (it : Item)
    (h : (x.dims.filter (fun d => d.items.contains it)).length ≠ 1) :
    x.getitem? (.single it) = none :=
  getitem?_eq_none fun dd _ _ h1 => by simp [defDict?, keySingleItem?_eq_none h] at h1

theorem tuple_with_unknown_item_rejected (x : FArr α) (its : List Item) (it : Item) (hm : it ∈ its)
    (h : (x.dims.filter (fun d => d.items.contains it)).length ≠ 1) :
    x.getitem? (.tuple its) = none := by
  have hmap : its.mapM (fun it => (keySingleItem? x.dims it).map (fun l => (l, it))) = none :=
    mapM_eq_none hm (by rw [keySingleItem?_eq_none h]; rfl)
  exact getitem?_eq_none fun dd _ _ h1 => by
    simp only [defDict?, toDictTuple?, Option.bind_eq_bind, hmap, Option.bind_none, reduceCtorEq] at h1

/-- numpy-style slices are rejected -/
theorem slice_rejected [Add α] [OfNat α 0] (x : FArr α) (rhs : FArr.Rhs α) :
    x.getitem? .slice = none ∧ x.setitem? .slice rhs = none := ⟨rfl, rfl⟩

/-- a dict entry naming no dimension of the array is rejected -/
theorem unknown_dimension_rejected (x : FArr α) (k : String) (s : Sel) (rest : List (String × Sel))
    (h : ∀ d ∈ x.dims, d.name ≠ k ∧ d.letter.toString ≠ k) :
    x.getitem? (.dict ((k, s) :: rest)) = none := by
  refine getitem?_dict_refused x k s rest ?_
  unfold idsSingle?
  rw [lookup?_unknown x.dims k h]
  rfl

/-- an item unknown to the named dimension, or a `Dimension` that is not a subset, is rejected -/
theorem bad_selector_rejected (x : FArr α) (k : String) (s : Sel) (rest : List (String × Sel)) (d : Dim)
    (hl : lookup? x.dims k = some d)
    (hbad : match s with
      | .item it => d.index? it = none
      | .dim d' => d'.isSubset d = false
      | .list its => its.mapM d.index? = none) :
    x.getitem? (.dict ((k, s) :: rest)) = none := by
  refine getitem?_dict_refused x k s rest ?_
  unfold idsSingle?
  rw [hl]
  cases s <;> simp only [Option.bind_eq_bind, Option.bind_some, hbad, Bool.false_eq_true, if_false,
    Option.map_none, Option.bind_none]

/-- reads through a list of items are refused (a `Dimension` must be used instead) -/
theorem list_read_rejected (x : FArr α) (kvs : List (String × Sel))
    (h : ∃ kv ∈ kvs, kv.2.isIterable = true) : x.getitem? (.dict kvs) = none :=
  getitem?_eq_none fun dd _ _ h1 _ _ => by cases h1; exact List.any_eq_true.mpr h

/-! ## items_where and split report entries under their true labels -/

/-- labels of an index tuple -/
def labelsOf (D : DimSet) (idx : List Nat) : List Item :=
  List.zipWith (fun (d : Dim) i => d.items.getD i default) D idx

theorem itemsWhere_sound_complete (x : FArr α) (cond : α → Bool) (row : List Item) :
    row ∈ x.itemsWhere cond ↔
      ∃ idx ∈ allIdx x.values.shape, cond (x.values.get idx) = true ∧ row = labelsOf x.dims idx := by
  unfold FArr.itemsWhere labelsOf
  simp only [List.mem_map, List.mem_filter]
  constructor
  · rintro ⟨idx, ⟨h1, h2⟩, rfl⟩; exact ⟨idx, h1, h2, rfl⟩
  · rintro ⟨idx, h1, h2, rfl⟩; exact ⟨idx, ⟨h1, h2⟩, rfl⟩

/-- `split(dim)` returns, per item of that dimension, the slice read with that item -/
theorem split_pieces (x : FArr α) (k : String) (d : Dim) (hl : lookup? x.dims k = some d)
    (ps : List (Item × FArr α)) (h : x.split? k = some ps) :
    ps.map (·.1) = d.items ∧ ∀ p ∈ ps, x.getitem? (.dict [(k, .item p.1)]) = some p.2 := by
  unfold FArr.split? at h
  simp only [Option.bind_eq_bind, hl, Option.bind_some] at h
  have hf : ∀ it p, (x.getitem? (.dict [(k, .item it)])).map (fun a => (it, a)) = some p →
      p.1 = it ∧ x.getitem? (.dict [(k, .item p.1)]) = some p.2 := fun it p hp => by
    obtain ⟨a, ha, rfl⟩ := Option.map_eq_some_iff.mp hp
    exact ⟨rfl, ha⟩
  refine ⟨map_of_mapM (fun it p hp => (hf it p hp).1) h, fun p hp => ?_⟩
  obtain ⟨it, _, hit⟩ := mem_of_mapM h hp
  exact (hf it p hit).2

/-! ### hypotheses are satisfiable: x over (t, r, g) with equal lengths, key {t: 2nd item, g: subset} -/
def dT : Dim := { letter := 't', name := "time", items := [.int 1, .int 2] }
def dR : Dim := { letter := 'r', name := "region", items := [.str "a", .str "b"] }
def dG : Dim := { letter := 'g', name := "good", items := [.str "x", .str "y"] }
def dH : Dim := { letter := 'h', name := "goodsub", items := [.str "y", .str "x"] }
def exX : FArr Int := ⟨[dT, dR, dG], ND.ofFlat [2, 2, 2] #[1, 2, 3, 4, 5, 6, 7, 8] 0⟩
def exS : List DSel := [.item 1, .keep, .sub dH [1, 0]]

example : WF exX ∧ SelsOK exX.dims exS ∧ SelsInj exS := by decide +kernel
example : Decodes exX.dims [("g", .dim dH), ("time", .item (.int 2))]
    (exX.dims.map fun _ => DSel.keep) exS := by
  refine .cons (d := dG) (i := 2) (ds := .sub dH [1, 0]) rfl rfl (by decide +kernel) (by decide +kernel)
    (by decide +kernel) (by decide +kernel) (by intro d' ps h; cases h; decide +kernel) ?_
  refine .cons (d := dT) (i := 0) (ds := .item 1) rfl rfl (by decide +kernel) (by decide +kernel)
    (by decide +kernel) (by decide +kernel) (by intro d' ps h; cases h) ?_
  exact .nil _
/-- the D8 input: the result is in label order, over (r, h) with entry (r=a, h=y) = x[t=2,r=a,g=y] -/
example : (exX.getitem? (.dict [("g", .dim dH), ("time", .item (.int 2))])).map
    (fun r => (DimSet.letters r.dims, r.values.toList)) = some (['r', 'h'], [6, 5, 8, 7]) := by decide +kernel

end Flodym.C06
