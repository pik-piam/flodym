import FlodymProofs.Lemmas.Table
import FlodymProofs.Props.C12
/-!
# C11 — DataFrame import is faithful to labels

* `to_df` lists every entry once under its true labels (sparse: exactly the non-zero ones);
* whenever the converter returns, every entry it sets comes from the unique row carrying that
  entry's labels, the others are zero — for every long table, any row order;
* with default flags a successful import has a row for every entry (pigeonhole);
* importing the exported rows gives the array back.
-/
namespace Flodym.C11
open Flodym Flodym.Table DimSet

/-! ## `to_df` -/

/-- the entries `to_df` lists: all of them, or (sparse) the non-zero ones -/
def listed (x : FArr Rat) (sparse : Bool) : List (List Nat) :=
  (allIdx (shape x.dims)).filter fun idx => !(sparse && x.values.get idx == 0)

/-- not sparse: every entry -/
theorem listed_dense (x : FArr Rat) : listed x false = allIdx (shape x.dims) := List.filter_true _

/-- what is not listed is zero -/
theorem eq_zero_of_not_listed (x : FArr Rat) (s : Bool) {idx : List Nat} (h : idx ∈ allIdx (shape x.dims))
    (hn : idx ∉ listed x s) : x.values.get idx = 0 := by
  cases hc : (s && x.values.get idx == 0)
  · exact absurd (List.mem_filter.mpr ⟨h, by rw [hc]; rfl⟩) hn
  · exact beq_iff_eq.mp (Bool.and_eq_true_iff.mp hc).2

/-- the long frame has one row per listed entry, in storage order: the entry's labels, then its value -/
theorem toDf_rows (x : FArr Rat) (s : Bool) :
    (toDfLong x s).rows = (listed x s).map fun idx => labelsOf x.dims idx ++ [.num (x.values.get idx) true] := by
  rw [listed, ← List.filterMap_eq_filter, List.map_filterMap]
  refine List.filterMap_congr fun idx _ => ?_
  show (if (s && x.values.get idx == 0) = true then none else some _) =
    Option.map _ (if (!(s && x.values.get idx == 0)) = true then some idx else none)
  cases (s && x.values.get idx == 0) <;> rfl

/-- **the long frame lists every entry once, in storage order, under its labels** -/
theorem toDf_rows_dense (x : FArr Rat) :
    (toDfLong x false).rows =
      (allIdx (shape x.dims)).map fun idx => labelsOf x.dims idx ++ [.num (x.values.get idx) true] := by
  rw [toDf_rows, listed_dense]

/-- **sparse: exactly the non-zero entries** -/
theorem toDf_rows_sparse (x : FArr Rat) :
    (toDfLong x true).rows =
      ((allIdx (shape x.dims)).filter fun idx => !(x.values.get idx == 0)).map
        fun idx => labelsOf x.dims idx ++ [.num (x.values.get idx) true] :=
  toDf_rows x true

/-- the enumeration has no repetition and consists exactly of the valid index tuples -/
theorem entries_once (D : DimSet) : (allIdx (shape D)).Nodup ∧ (allIdx (shape D)).length = (shape D).prod :=
  ⟨allIdx_nodup _, length_allIdx _⟩

/-- the `j`-th label of a row is the item at the row's `j`-th index -/
theorem labelsOf_getElem (D : DimSet) (idx : List Nat) (j : Nat) (hj : j < D.length) (hi : j < idx.length) :
    (labelsOf D idx)[j]? = some (Cell.ofItem (D[j].items.getD idx[j] default)) := by
  rw [labelsOf, List.getElem?_map, List.getElem?_eq_getElem (by rw [List.length_zip]; exact Nat.lt_min.mpr ⟨hj, hi⟩),
    List.getElem_zip]
  rfl

/-! ## the placement: every entry from the unique row carrying its labels -/

def RowsWF (dims : DimSet) (rows : List (List Cell × Option Rat)) : Prop := ∀ r ∈ rows, r.1.length = dims.length

/-- **whenever the converter returns, every entry comes from the unique row carrying that entry's
labels (its value, or zero where the value is empty and `allow_missing_values` is set), and every
entry no row carries is zero** — any number of rows, in any order -/
theorem entry_from_unique_row (dims : DimSet) (t : LongTable) (m e : Bool) (v : ND Rat)
    (hwf : RowsWF dims t.rows) (h : complete? dims t m e = some v) :
    v.shape = shape dims ∧
    ∀ idx, (∃ r ∈ t.rows, positions? dims r.1 = some idx ∧ v.get idx = r.2.getD 0 ∧
              ∀ r' ∈ t.rows, positions? dims r'.1 = some idx → labelsEq r.1 r'.1 = true) ∨
           ((∀ r ∈ t.rows, positions? dims r.1 ≠ some idx) ∧ v.get idx = 0) := by
  obtain ⟨hd, _, _, _, rfl⟩ := C12.complete?_eq_some.mp h
  refine ⟨rfl, fun idx => ?_⟩
  by_cases hex : ∃ r ∈ t.rows, positions? dims r.1 = some idx
  · obtain ⟨r, hr, hpos⟩ := hex
    exact .inl ⟨r, hr, hpos, placedGet_row dims t.rows hwf hd hr hpos,
      fun r' hr' hpos' => labelsEq_of_positions (hwf r hr) (hwf r' hr') hpos hpos'⟩
  · have hno : ∀ r ∈ t.rows, positions? dims r.1 ≠ some idx := fun r hr hp => hex ⟨r, hr, hp⟩
    exact .inr ⟨hno, placedGet_no_row dims t.rows idx hno⟩

/-- **the order of the rows does not matter** -/
theorem row_order_irrelevant (dims : DimSet) (t t' : LongTable) (m e : Bool) (v v' : ND Rat)
    (hperm : t.rows.Perm t'.rows) (hwf : RowsWF dims t.rows)
    (h : complete? dims t m e = some v) (h' : complete? dims t' m e = some v') :
    v.shape = v'.shape ∧ ∀ idx, v.get idx = v'.get idx := by
  obtain ⟨hd, _, _, _, rfl⟩ := C12.complete?_eq_some.mp h
  obtain ⟨_, _, _, _, rfl⟩ := C12.complete?_eq_some.mp h'
  -- the two tables place the same entries, at distinct positions
  exact ⟨rfl, placedGet_perm (hperm.filterMap _) (placed_nodup dims t.rows hwf hd)⟩

/-- **with default flags a successful import has a row for every entry of the array** (as many known,
distinct label combinations as entries: pigeonhole) -/
theorem default_import_is_complete (dims : DimSet) (t : LongTable) (v : ND Rat) (hwf : RowsWF dims t.rows)
    (h : complete? dims t false false = some v) :
    ∀ idx ∈ allIdx (shape dims), ∃ r ∈ t.rows, ∃ x, positions? dims r.1 = some idx ∧ r.2 = some x ∧ v.get idx = x := by
  obtain ⟨hd, kept, hk, hm, rfl⟩ := C12.complete?_eq_some.mp h
  obtain ⟨hall, rfl⟩ := keepRows?_eq_some.mp hk
  obtain ⟨hlen, hval⟩ := hm.resolve_left Bool.false_ne_true
  replace hall := hall.resolve_left Bool.false_ne_true
  rw [List.filter_eq_self.mpr hall] at hlen hval
  -- every row has a position; the positions are distinct members of the enumeration, as many as it has
  let pos : List (List Nat) := t.rows.filterMap fun r => positions? dims r.1
  have hpos_len : pos.length = t.rows.length :=
    List.filterMap_length_eq_length.mpr fun r hr => rowKnown_eq dims r.1 ▸ hall r hr
  have hpos_sub : pos ⊆ allIdx (shape dims) := by
    intro idx hidx
    obtain ⟨r, hr, hi⟩ := List.mem_filterMap.mp hidx
    exact positions?_mem_allIdx (hwf r hr) hi
  have hperm : pos.Perm (allIdx (shape dims)) :=
    (List.subperm_of_subset (positions?_nodup dims t.rows hwf hd) hpos_sub).perm_of_length_le
      (by rw [length_allIdx, hpos_len, hlen]; exact Nat.le_refl _)
  intro idx hidx
  obtain ⟨r, hr, hi⟩ := List.mem_filterMap.mp (hperm.mem_iff.mpr hidx)
  obtain ⟨x, hx⟩ := Option.ne_none_iff_exists'.mp (hval r hr)
  exact ⟨r, hr, x, hi, hx, (placedGet_row dims t.rows hwf hd hr hi).trans (by rw [hx]; rfl)⟩

/-! ## the round trip through the exported rows -/

/-- the long table `to_df` writes, read back column by column -/
def exported (x : FArr Rat) : LongTable :=
  { rows := (allIdx (shape x.dims)).map fun idx => (labelsOf x.dims idx, some (x.values.get idx)) }

/-- the long table listing the entries at the index tuples `L` -/
def rowsAt (x : FArr Rat) (L : List (List Nat)) : LongTable :=
  { rows := L.map fun idx => (labelsOf x.dims idx, some (x.values.get idx)) }

/-- **importing the rows of any part `L` of the entries that leaves out only zeros returns the array**
(all entries: the dense frame; the non-zero ones: the sparse frame, which needs `allow_missing_values`) -/
theorem roundtrip_rowsAt (x : FArr Rat) (hit : ∀ d ∈ x.dims, d.items.Nodup) (L : List (List Nat)) (m : Bool)
    (hL : L.Sublist (allIdx (shape x.dims))) (hm : m = true ∨ L.length = (shape x.dims).prod)
    (hz : ∀ idx ∈ allIdx (shape x.dims), idx ∉ L → x.values.get idx = 0) :
    ∃ v, complete? x.dims (rowsAt x L) m false = some v ∧ v.shape = shape x.dims ∧
      ∀ idx ∈ allIdx (shape x.dims), v.get idx = x.values.get idx := by
  have hpos := positions?_labelsOf x.dims hit
  have hwf : RowsWF x.dims (rowsAt x L).rows :=
    List.forall_mem_map.mpr fun idx hidx => labelsOf_length (hL.subset hidx)
  have hknown : ∀ r ∈ (rowsAt x L).rows, rowKnown x.dims r.1 = true :=
    List.forall_mem_map.mpr fun idx hidx => by rw [rowKnown_eq, hpos idx (hL.subset hidx)]; rfl
  have hdup : hasDuplicates ((rowsAt x L).rows.map (·.1)) = false := by
    rw [hasDuplicates_false_iff, rowsAt, List.map_map]
    exact labelsOf_pairwise x.dims hit L (hL.nodup (allIdx_nodup _)) fun _ h => hL.subset h
  refine ⟨_, C12.complete?_eq_some.mpr ⟨hdup, _,
    keepRows?_eq_some.mpr ⟨.inr hknown, List.filter_eq_self.mpr hknown⟩,
    hm.imp_right fun h => ⟨(List.length_map _).trans h, List.forall_mem_map.mpr fun _ _ => nofun⟩, rfl⟩,
    rfl, fun idx hidx => ?_⟩
  by_cases hin : idx ∈ L
  · exact placedGet_row x.dims _ hwf hdup (List.mem_map_of_mem hin) (hpos idx hidx)
  · -- no row carries these labels: the entry was left out, so it is zero in the array as well
    rw [hz idx hidx hin]
    refine placedGet_no_row x.dims _ idx fun r hr hp => ?_
    obtain ⟨j, hj, rfl⟩ := List.mem_map.mp hr
    rw [hpos j (hL.subset hj)] at hp
    exact hin (Option.some.inj hp ▸ hj)

/-- **importing the exported rows returns the array**: same shape, the same value at every entry
(dimensions with distinct items; any number of dimensions and items) -/
theorem roundtrip_rows (x : FArr Rat) (hit : ∀ d ∈ x.dims, d.items.Nodup) :
    ∃ v, complete? x.dims (exported x) false false = some v ∧ v.shape = shape x.dims ∧
      ∀ idx ∈ allIdx (shape x.dims), v.get idx = x.values.get idx :=
  -- `exported x` unfolds to `rowsAt x (allIdx (shape x.dims))`
  roundtrip_rowsAt x hit _ false (.refl _) (.inr (length_allIdx _)) fun _ h hn => absurd h hn

/-! ## the source as the model reads it (regenerated on every run by `translate/gen_lean.py`) -/

/-- **the converter of the current tree runs the stages the model transcribes, in that order, with the
repairs D14, D16, D16b, D19, D20, D26 in place** (a tree on which this fails is modelled as it is —
the flags switch the model — and the check then looks for a failing input) -/
theorem source_converter_as_modelled :
    Gen.converterSteps = ["_reset_non_default_index", "_determine_format", "_df_to_long_format",
      "_check_missing_dim_columns", "_convert_type", "_sort_columns", "_check_data_complete"] ∧
    Gen.determineFormatSteps = ["_get_dim_columns_by_name_or_letter", "_check_if_first_row_are_items",
      "_check_for_dim_columns_by_items", "_check_value_columns"] ∧
    Gen.firstRowGuard = true ∧ Gen.byItemsSkipsIdentified = true ∧ Gen.byItemsContinues = true ∧
    Gen.valueColsKeepType = true ∧ Gen.sameItemsRejectsFractions = true ∧ Gen.fillIndexCasts = ["np.intp"] :=
  ⟨rfl, rfl, rfl, rfl, rfl, rfl, rfl, rfl⟩

/-! ## non-vacuity -/

def exDims : DimSet :=
  [{ letter := 't', name := "time", items := [.int 2000, .int 2001], dtype := some .int },
   { letter := 'r', name := "region", items := [.str "EU", .str "NA"], dtype := some .str }]

def exArr : FArr Rat := ⟨exDims, ND.ofFlat [2, 2] #[1, 2, 0, 4] 0⟩

example : (toDfLong exArr true).rows =
    [[.num 2000 false, .str "EU", .num 1 true], [.num 2000 false, .str "NA", .num 2 true],
     [.num 2001 false, .str "NA", .num 4 true]] := by decide +kernel

/-- the whole converter on the exported frame, columns in another order, dimensions by letter -/
example : ((fromDf? exDims .range
      { cols := [.str "r", .str "value", .str "t"],
        rows := [[.str "NA", .num 4 true, .num 2001 false], [.str "EU", .num 1 true, .num 2000 false],
                 [.str "NA", .num 2 true, .num 2000 false], [.str "EU", .num 0 true, .num 2001 false]] } false false).map
      fun a => (allIdx a.values.shape).map a.values.get) = some [1, 2, 0, 4] := by decide +kernel

/-- wide layout, one dimension spread over the columns -/
example : ((fromDf? exDims (.named 1)
      { cols := [.str "time", .str "NA", .str "EU"],
        rows := [[.num 2001 false, .num 4 true, .num 0 true], [.num 2000 false, .num 2 true, .num 1 true]] } false false).map
      fun a => (allIdx a.values.shape).map a.values.get) = some [1, 2, 0, 4] := by decide +kernel

end Flodym.C11
