import FlodymProofs.Lemmas.Balance
/-!
# C02 — mass-balance and flow checks report exactly the violations

`FV` = a rational or NaN (NaN absorbs in arithmetic, every comparison with NaN is false).
`massBalance` transcribes `_get_mass_balance` (contribution lists in dict order, Python's `sum`),
`checkMassBalance` / `checkFlows` the two checks; the factor 100, the failure test
`not e <= tolerance`, the `default=0.0` of the tolerance and the `sysenv` name are regenerated
from the source on every run.
-/
namespace Flodym.C02
open Flodym DimSet

/-! ## the balance of a process, by label -/

/-- the balance of a process with at least one contribution: it lives on the dimensions common to
all its contributions (first contribution's order), and its entry under labels `e` is the sum of
all contributions — inflows (+), outflows (−), stock net additions (− at the process, + mirrored on
the environment) — each summed over its other dimensions and matched by label -/
theorem process_balance_by_label (p : FArr FV) (ps : List (FArr FV)) (hp : WF p) (hps : ∀ q ∈ ps, WF q)
    (hc : ∀ q ∈ ps, Compatible p.dims q.dims) :
    ∃ r, pySum (p :: ps) = some r ∧
      r.dims = ps.foldl (fun D q => intersectWith D q.dims) p.dims ∧ WF r ∧
      ∀ e, r.at e = ((p :: ps).map fun c => margin c r.letters e).sum :=
  Yields.own_letters (f := fun L e => ((p :: ps).map fun c => margin c L e).sum) <|
    -- `0 + p` first (`__radd__`): an array `a` with `p`'s dimensions and entries
    (addLike_num_spec (· + ·) p hp 0).bind fun a hd hw hat => by
      have := foldlM_add_spec ps a hw hps (hd ▸ hc)
      rw [hd] at this
      refine this.congr fun e => congrArg (· + _) ?_
      show margin a _ e = margin p _ e
      rw [margin, margin, hd, funext fun e => (hat e).trans (by rw [FV.mul_one, add_zero])]

/-- a process without any flow or stock has a zero balance -/
theorem idle_process_balance : (pySum ([] : List (FArr FV))).map (fun r => (r.dims, r.values.toList))
    = some ([], [0]) := rfl

/-- a flow whose source or target is not a process of the system makes the balance undefined
(`KeyError`), it is never silently dropped -/
theorem unknown_process_refused (cs : List (String × List (FArr FV))) (p : String) (x : FArr FV)
    (h : ∀ c ∈ cs, c.1 ≠ p) : addContribution cs p x = none :=
  if_neg fun hany => by
    obtain ⟨c, hc, hcp⟩ := List.any_eq_true.mp hany
    exact h c hc (beq_iff_eq.mp hcp)

/-! ## every comparison with NaN is false -/

theorem le_nan_false (t : FV) : FV.le FV.nan t = false := rfl
theorem gt_nan_false (t : FV) : FV.gt FV.nan t = false := rfl

/-! ## decision logic of `check_mass_balance` -/

/-- the source's failure test lets a NaN balance fail, and the default tolerance tolerates systems
without flows or stocks (regenerated constants) -/
theorem source_constants :
    Gen.massBalanceNanFails = true ∧ Gen.toleranceDefaultsZero = true ∧
    Gen.massBalanceFactor = 100 ∧ Gen.checkFlowsFactor = 100 ∧ Gen.sysenvName = "sysenv" :=
  ⟨rfl, rfl, rfl, rfl, rfl⟩

/-- with the balances and the tolerance in hand: success exactly when every process's largest
absolute balance entry is within the tolerance; otherwise an error, or a warning naming exactly the
failing processes -/
theorem check_decision (factor eps : FV) (sys : SysM) (tol : FV) (raiseError : Bool)
    (balances : List (String × FArr FV)) (errs : List (String × FV))
    (hb : massBalance sys = some balances)
    (he : balances.mapM (fun b => (maxAbs b.2).map fun e => (b.1, e)) = some errs) :
    checkMassBalance factor eps sys (some tol) raiseError =
      (if (errs.filter (fun e => !(e.2.le tol))).isEmpty then CheckOutcome.ok
       else if raiseError then CheckOutcome.raised
       else CheckOutcome.warned ((errs.filter (fun e => !(e.2.le tol))).map (·.1))) := by
  unfold checkMassBalance
  simp only [hb, he, source_constants.1, if_true]

theorem check_ok_iff (factor eps : FV) (sys : SysM) (tol : FV) (raiseError : Bool)
    (balances : List (String × FArr FV)) (errs : List (String × FV))
    (hb : massBalance sys = some balances)
    (he : balances.mapM (fun b => (maxAbs b.2).map fun e => (b.1, e)) = some errs) :
    checkMassBalance factor eps sys (some tol) raiseError = .ok ↔ ∀ e ∈ errs, e.2.le tol = true := by
  rw [check_decision factor eps sys tol raiseError balances errs hb he, CheckOutcome.ite_eq_ok_iff,
    List.isEmpty_iff, List.filter_eq_nil_iff]
  simp only [Bool.not_eq_true', Bool.not_eq_false]

/-- a NaN balance is never reported as success -/
theorem nan_balance_never_success (factor eps : FV) (sys : SysM) (tol : FV) (raiseError : Bool)
    (balances : List (String × FArr FV)) (errs : List (String × FV))
    (hb : massBalance sys = some balances)
    (he : balances.mapM (fun b => (maxAbs b.2).map fun e => (b.1, e)) = some errs)
    (p : String) (hnan : (p, FV.nan) ∈ errs) :
    checkMassBalance factor eps sys (some tol) raiseError ≠ .ok := fun h =>
  -- success would make `nan ≤ tol` true, but it is `false` (`le_nan_false`)
  Bool.false_ne_true ((check_ok_iff factor eps sys tol raiseError balances errs hb he).mp h (p, FV.nan) hnan)

/-- … and a process whose balance array contains a NaN entry has a NaN maximum -/
theorem maxAbs_nan (b : FArr FV) (h : FV.nan ∈ b.values.toList) : maxAbs b = some FV.nan :=
  npMax_nan (List.mem_map.mpr ⟨FV.nan, h, rfl⟩)

/-- the default tolerance: 100 × eps × the largest flow or stock magnitude (0 for none) -/
theorem default_tolerance (factor eps : FV) (sys : SysM) (raiseError : Bool) (p : FV)
    (hp : absoluteFloatPrecision eps sys = some p) :
    checkMassBalance factor eps sys none raiseError = checkMassBalance factor eps sys (some (factor * p)) raiseError := by
  unfold checkMassBalance
  rw [hp]; rfl

/-- the code as it stands leaves NaN entries aside when it scales the tolerance (regenerated) -/
theorem source_tolerance_ignores_nan : Gen.toleranceIgnoresNan = true := rfl

/-- the precision of every system: eps × the larger of the largest flow magnitude and the largest
stock magnitude (0 for none), NaN entries left aside -/
theorem default_tolerance_formula (eps : FV) (sys : SysM) :
    absoluteFloatPrecision eps sys
      = some (eps * (if (pyMax (sys.stocks.map fun s => maxAbsNoNan s.stock) 0).gt
                        (pyMax (sys.flows.map fun f => maxAbsNoNan f.arr) 0)
                     then pyMax (sys.stocks.map fun s => maxAbsNoNan s.stock) 0
                     else pyMax (sys.flows.map fun f => maxAbsNoNan f.arr) 0)) := by
  unfold absoluteFloatPrecision
  rw [mapM_magnitude sys.flows (·.arr), mapM_magnitude sys.stocks (·.stock)]
  rfl  -- `Gen.toleranceDefaultsZero = true` (`source_constants`) rules the `none` branch out

/-- **the default tolerance is a number, never NaN** — whatever NaN entries the flows and stocks hold
(D33 before the repair: a NaN in the first flow made it NaN, every comparison with it came out False
and negative entries of the other flows went unreported) -/
theorem default_tolerance_is_a_number (e : Rat) (sys : SysM) :
    ∃ q, absoluteFloatPrecision (.num e) sys = some (.num q) := by
  obtain ⟨a, ha⟩ := pyMax_maxAbsNoNan_num sys.flows (·.arr)
  obtain ⟨b, hb⟩ := pyMax_maxAbsNoNan_num sys.stocks (·.stock)
  rw [default_tolerance_formula, ha, hb]
  split <;> exact ⟨_, rfl⟩

/-! ## decision logic of `check_flows` -/

/-- without `raise_error`: the flows flagged are exactly the non-excepted flows that contain NaN
(first) or an entry below minus the tolerance, and nothing else -/
theorem checkFlows_flags (factor eps : FV) (sys : SysM) (exceptions : List String) (p : FV)
    (hp : absoluteFloatPrecision eps sys = some p) :
    checkFlows factor eps sys exceptions false =
      (if ((nanFlows (shownFlows sys exceptions)).map (·.name)
            ++ (negFlows (factor * p) (shownFlows sys exceptions)).map (·.name)).isEmpty then .ok
       else .warned ((nanFlows (shownFlows sys exceptions)).map (·.name)
            ++ (negFlows (factor * p) (shownFlows sys exceptions)).map (·.name))) := by
  unfold checkFlows
  simp only [Bool.false_and, Bool.false_eq_true, if_false, hp]

/-- with `raise_error`: raises exactly when something would be flagged -/
theorem checkFlows_raises (factor eps : FV) (sys : SysM) (exceptions : List String) (p : FV)
    (hp : absoluteFloatPrecision eps sys = some p) :
    checkFlows factor eps sys exceptions true =
      (if (nanFlows (shownFlows sys exceptions)).isEmpty
          && (negFlows (factor * p) (shownFlows sys exceptions)).isEmpty then .ok else .raised) := by
  unfold checkFlows
  simp only [hp]
  -- both lists empty: nothing is flagged; otherwise one of the two `raise` tests fires
  cases nanFlows (shownFlows sys exceptions) <;> cases negFlows (factor * p) (shownFlows sys exceptions) <;> rfl

/-- what is looked at: a flow is shown iff neither its name nor one of its processes is excepted -/
theorem shown_iff (sys : SysM) (exceptions : List String) (f : FlowM) :
    f ∈ shownFlows sys exceptions ↔
      f ∈ sys.flows ∧ f.name ∉ exceptions ∧ f.fromP ∉ exceptions ∧ f.toP ∉ exceptions := by
  unfold shownFlows
  simp only [List.mem_filter, Bool.not_eq_true', List.contains_eq_mem, decide_eq_false_iff_not,
    Bool.and_eq_true]
  exact and_assoc

/-- a shown flow is flagged for NaN iff one of its entries is NaN, for negativity iff one of its
entries is below minus the tolerance (NaN entries are not "below") -/
theorem flagged_iff (tol : FV) (fl : List FlowM) (f : FlowM) :
    (f ∈ nanFlows fl ↔ f ∈ fl ∧ ∃ v ∈ f.arr.values.toList, v = FV.nan) ∧
    (f ∈ negFlows tol fl ↔ f ∈ fl ∧ ∃ v ∈ f.arr.values.toList, v.lt (-tol) = true) := by
  unfold nanFlows negFlows
  simp only [List.mem_filter, List.any_eq_true, FV.isNan_iff, and_self]

end Flodym.C02
