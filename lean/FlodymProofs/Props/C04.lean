import FlodymProofs.Lemmas.Shares
import FlodymProofs.Lemmas.GetSet
import FlodymProofs.Props.C05
import FlodymProofs.Props.C06
/-!
# C04 — results do not depend on the storage order of dimensions

`LabelEq x x'` : `x'` is `x` with its dimension list permuted and its values transposed
accordingly — the same entries under the same labels. Each theorem says: feeding label-equal
operands to a public operation gives results with the same entries under the same labels; those for
`+ − min max`, `*`, `sum_to`, `cast_to` and assignment also state the result's own dimension order
(left operand first / the requested order / the target's order), those for `/`, `cumsum` and reading do not.
They are corollaries of the label-level specs that C01, C06 and C07 instantiate (`addLike_arr_spec`,
`mul_arr_spec`, `sumTo_spec`, `castTo_spec`, `cumsum_spec`, `C06.getitem_reads_addressed`: each mentions its inputs only
through their label view) and of the permutation invariance of nested sums (`sumOver_perm`).
Assignment (`setitem_source_order_independent`, `setitem_whole_order_independent`) follows from the C05 specs,
the lifetime-parameter cast from `castTo_spec`. DataFrame export/import and stacking are covered in C11 and
by the streams that permute storage orders.
-/
namespace Flodym.C04
open Flodym DimSet SubArray

variable {α : Type}

/-- same entries under the same labels; dimension lists are permutations of each other -/
def LabelEq (x x' : FArr α) : Prop := x'.dims.Perm x.dims ∧ ∀ e, x'.at e = x.at e

/-- permuting the storage order (and transposing the values accordingly) -/
def permute (x : FArr α) (D' : DimSet) : FArr α :=
  ⟨D', { shape := DimSet.shape D',
         get := fun idx => x.at (bind (letters D') idx Env.zero) }⟩

/-- `permute` keeps every entry under its labels -/
theorem permute_labelEq (x : FArr α) (D' : DimSet) (hp : D'.Perm x.dims) (hnd : (letters D').Nodup) :
    LabelEq x (permute x D') ∧ WF (permute x D') := by
  refine ⟨⟨hp, fun e => ?_⟩, ⟨hnd, rfl⟩⟩
  show x.at (bind (letters D') ((letters D').map e) Env.zero) = x.at e
  -- every letter of `x` is a letter of `D'`, bound to its own label
  exact congrArg x.values.get (List.map_congr_left fun c hc =>
    bind_map_self _ e _ hnd c ((mem_letters_perm hp c).mpr hc))

/-- marginal sums do not depend on the storage order of the array, nor on the order in which the
kept letters are listed -/
theorem margin_labelEq [AddCommMonoid α] (x x' : FArr α) (hx' : WF x') (h : LabelEq x x')
    (L L' : List Char) (hL : ∀ c, c ∈ L ↔ c ∈ L') (e : Env) :
    margin x' L' e = margin x L e := by
  unfold margin
  rw [funext h.2, summedOf_congr_keep x'.dims fun c => (hL c).symm]
  exact sumOver_perm (ls := summedOf x'.dims L) ((h.1.filter _).map _) _
    (summedOf_fst x'.dims L ▸ hx'.1.filter _) e

/-- x + y, x - y, minimum, maximum -/
theorem addLike_order_independent [Ring α] (f : α → α → α) (x x' y y' : FArr α)
    (hx : WF x) (hx' : WF x') (hy : WF y) (hy' : WF y') (hc : Compatible x.dims y.dims)
    (hxx : LabelEq x x') (hyy : LabelEq y y') :
    ∃ r r', FArr.addLike? f x (.arr y) = some r ∧ FArr.addLike? f x' (.arr y') = some r' ∧
      r'.dims = x'.dims.filter (fun d => (letters y'.dims).contains d.letter) ∧   -- left operand's order
      LabelEq r r' := by
  have hperm := intersectWith_perm hxx.1 hyy.1
  have hL := fun c => (mem_letters_perm hperm c).symm
  obtain ⟨r, r', h1, h1', h2, h2', h⟩ := (addLike_arr_spec f x y hx hy hc).pair
    (addLike_arr_spec f x' y' hx' hy' (compatible_of_perm hxx.1 hyy.1 hc)) fun e => by
      rw [margin_labelEq x x' hx' hxx _ _ hL e, margin_labelEq y y' hy' hyy _ _ hL e]
  exact ⟨r, r', h1, h1', h2', h2 ▸ h2' ▸ hperm, h⟩

/-- x * y -/
theorem mul_order_independent [Ring α] (x x' y y' : FArr α)
    (hx : WF x) (hx' : WF x') (hy : WF y) (hy' : WF y') (hc : Compatible x.dims y.dims)
    (hxx : LabelEq x x') (hyy : LabelEq y y') :
    ∃ r r', FArr.mul? x (.arr y) = some r ∧ FArr.mul? x' (.arr y') = some r' ∧
      r'.dims = x'.dims ++ y'.dims.filter (fun d => !((letters x'.dims).contains d.letter)) ∧
      (∀ e, r'.at e = r.at e) := by
  obtain ⟨r, r', h1, h1', _, h2', h⟩ := (mul_arr_spec x y hx hy hc).pair
    (mul_arr_spec x' y' hx' hy' (compatible_of_perm hxx.1 hyy.1 hc)) fun e => by rw [hxx.2 e, hyy.2 e]
  exact ⟨r, r', h1, h1', h2', h⟩

/-- x / y -/
theorem div_order_independent [Field α] (x x' y y' : FArr α)
    (hx : WF x) (hx' : WF x') (hy : WF y) (hy' : WF y') (hc : Compatible x.dims y.dims)
    (hxx : LabelEq x x') (hyy : LabelEq y y') :
    ∃ r r', FArr.div? x (.arr y) = some r ∧ FArr.div? x' (.arr y') = some r' ∧
      (∀ e, r'.at e = r.at e) := by
  obtain ⟨r, r', h1, h1', _, _, h⟩ := (div_arr_spec x y hx hy hc).pair
    (div_arr_spec x' y' hx' hy' (compatible_of_perm hxx.1 hyy.1 hc)) fun e => by rw [hxx.2 e, hyy.2 e]
  exact ⟨r, r', h1, h1', h⟩

/-- sum_to: the result has the *requested* order whatever the storage order -/
theorem sumTo_order_independent [AddCommMonoid α] (x x' : FArr α) (hx : WF x) (hx' : WF x')
    (hn : NamesOk x.dims) (hxx : LabelEq x x') (ds : List Dim) (hds : ∀ d ∈ ds, d ∈ x.dims)
    (hnd : (letters ds).Nodup) :
    ∃ r r', x.sumTo? ((letters ds).map fun l => .str l.toString) = some r ∧
      x'.sumTo? ((letters ds).map fun l => .str l.toString) = some r' ∧
      r.dims = ds ∧ r'.dims = ds ∧ ∀ e, r'.at e = r.at e := by
  have hn' : NamesOk x'.dims := fun d hd => hn d (hxx.1.mem_iff.mp hd)
  have hds' : ∀ d ∈ ds, d ∈ x'.dims := fun d hd => hxx.1.mem_iff.mpr (hds d hd)
  exact (sumTo_spec x hx hn ds hds hnd _ (tupleToLetters?_letters x hx.1 hn ds hds)).pair
    (sumTo_spec x' hx' hn' ds hds' hnd _ (tupleToLetters?_letters x' hx'.1 hn' ds hds'))
    (margin_labelEq x x' hx' hxx _ _ fun _ => Iff.rfl)

/-- a parameter handed to a lifetime model is cast to the model's dimensions (`cast_any_to_np_array` =
`cast_to(model dims)`): the table of parameters the model works with has the model's order and the same
entry under every label combination, whatever order the parameter array stores its dimensions in -/
theorem lifetime_parameter_order_independent [AddCommMonoid α] (prm prm' : FArr α) (modelDims : DimSet)
    (hp : WF prm) (hp' : WF prm') (hT : (letters modelDims).Nodup) (hc : Compatible prm.dims modelDims)
    (hsub : ∀ l ∈ prm.letters, l ∈ letters modelDims) (hpp : LabelEq prm prm') :
    ∃ r r', prm.castTo? modelDims = some r ∧ prm'.castTo? modelDims = some r' ∧
      r.dims = modelDims ∧ r'.dims = modelDims ∧
      ∀ e, Valid modelDims e → r'.at e = prm.at e ∧ r.at e = prm.at e := by
  obtain ⟨r, h1, h2, _, h4⟩ := castTo_spec prm modelDims hp hT hc hsub
  obtain ⟨r', h1', h2', _, h4'⟩ := castTo_spec prm' modelDims hp' hT
    (fun d hd => hc d (hpp.1.mem_iff.mp hd)) fun l hl => hsub l ((mem_letters_perm hpp.1 l).mp hl)
  exact ⟨r, r', h1, h1', h2, h2', fun e hv => ⟨(h4' e hv).trans (hpp.2 e), h4 e hv⟩⟩

/-- cast_to: the result has the *target's* order whatever the storage order of the source -/
theorem castTo_order_independent [AddCommMonoid α] (x x' : FArr α) (T : DimSet) (hx : WF x) (hx' : WF x')
    (hT : (letters T).Nodup) (hc : Compatible x.dims T) (hsub : ∀ l ∈ x.letters, l ∈ letters T)
    (hxx : LabelEq x x') :
    ∃ r r', x.castTo? T = some r ∧ x'.castTo? T = some r' ∧ r.dims = T ∧ r'.dims = T ∧
      ∀ e, Valid T e → r'.at e = r.at e := by
  obtain ⟨r, r', h1, h1', h2, h2', h⟩ := lifetime_parameter_order_independent x x' T hx hx' hT hc hsub hxx
  exact ⟨r, r', h1, h1', h2, h2', fun e hv => (h e hv).1.trans (h e hv).2.symm⟩

/-- cumsum along a letter -/
theorem cumsum_order_independent [AddCommMonoid α] (x x' : FArr α) (hx : WF x) (hx' : WF x')
    (l : Char) (hl : l ∈ x.letters) (hxx : LabelEq x x') :
    ∃ r r', x.cumsum? l = some r ∧ x'.cumsum? l = some r' ∧ ∀ e, r'.at e = r.at e := by
  obtain ⟨r, r', h1, h1', _, _, h⟩ := (cumsum_spec x hx l hl).pair
    (cumsum_spec x' hx' l ((mem_letters_perm hxx.1 l).mpr hl)) fun e =>
      sumRange_congr fun i _ => hxx.2 _
  exact ⟨r, r', h1, h1', h⟩

/-- reading with a dict key: the result depends on the source only through its label view.
`S`/`S'` are the per-dimension selectors for the two storage orders; that they are "the same
selection" is expressed by `hsame`: both address, for every result label tuple, the same source
labels. -/
theorem getitem_order_independent (x x' : FArr α) (hx : WF x) (hx' : WF x')
    (kvs : List (String × Sel)) (S S' : List DSel)
    (hdec : Decodes x.dims kvs (x.dims.map fun _ => DSel.keep) S) (hok : SelsOK x.dims S)
    (hdec' : Decodes x'.dims kvs (x'.dims.map fun _ => DSel.keep) S') (hok' : SelsOK x'.dims S')
    (hxx : LabelEq x x')
    (hsame : ∀ e, ∃ e0, liftIdx x.dims S e = x.letters.map e0 ∧ liftIdx x'.dims S' e = x'.letters.map e0) :
    ∃ r r', x.getitem? (.dict kvs) = some r ∧ x'.getitem? (.dict kvs) = some r' ∧
      ∀ e, Valid r.dims e → Valid r'.dims e → r'.at e = r.at e := by
  obtain ⟨r, h1, _, _, h4⟩ := C06.getitem_reads_addressed x hx kvs S hdec hok
  obtain ⟨r', h1', _, _, h4'⟩ := C06.getitem_reads_addressed x' hx' kvs S' hdec' hok'
  refine ⟨r, r', h1, h1', fun e hv hv' => ?_⟩
  obtain ⟨e0, he, he'⟩ := hsame e
  rw [h4 e hv, h4' e hv', he, he']
  exact hxx.2 e0

/-- `target[key] = source`: what is written does not depend on the storage order of the *source*:
a source with permuted dimensions (values transposed accordingly) leaves the very same array behind
(the target's own dims and order are untouched, see C05 `setitem_array_by_label`) -/
theorem setitem_source_order_independent [AddCommMonoid α] (x y y' : FArr α) (hx : WF x) (hy : WF y)
    (hy' : WF y') (kvs : List (String × Sel)) (S' : List DSel)
    (hdec : Decodes x.dims kvs (x.dims.map fun _ => DSel.keep) S') (hok : SelsOK x.dims S')
    (hinj : SelsInj S') (hsub : ∀ d ∈ outDims x.dims S', d ∈ y.dims) (hyy : LabelEq y y') :
    ∃ r r', x.setitem? (.dict kvs) (.arr y) = some r ∧ x.setitem? (.dict kvs) (.arr y') = some r' ∧
      r.dims = x.dims ∧ r'.dims = x.dims ∧ ∀ idx, r'.values.get idx = r.values.get idx := by
  have hsub' : ∀ d ∈ outDims x.dims S', d ∈ y'.dims := fun d hd => hyy.1.mem_iff.mpr (hsub d hd)
  obtain ⟨r, h1, h2, _, h4, h5⟩ := C05.setitem_array_by_label x y hx hy kvs S' hdec hok hinj hsub
  obtain ⟨r', h1', h2', _, h4', h5'⟩ := C05.setitem_array_by_label x y' hx hy' kvs S' hdec hok hinj hsub'
  refine ⟨r, r', h1, h1', h2, h2', fun idx => ?_⟩
  by_cases hex : ∃ e, Valid (outDims x.dims S') e ∧ liftIdx x.dims S' e = idx
  · obtain ⟨e, hve, rfl⟩ := hex
    rw [h4 e hve, h4' e hve]
    exact margin_labelEq y y' hy' hyy _ _ (fun _ => Iff.rfl) e
  · have hno : ∀ e, Valid (outDims x.dims S') e → liftIdx x.dims S' e ≠ idx :=
      fun e hve h => hex ⟨e, hve, h⟩
    rw [h5 idx hno, h5' idx hno]

/-- whole-array assignment `target[...] = source`: neither the storage order of the pre-declared
*target* nor that of the source matters — two targets declared over the same dimensions in different
orders hold the same entries under the same labels afterwards -/
theorem setitem_whole_order_independent [AddCommMonoid α] (x x' y y' : FArr α) (hx : WF x) (hx' : WF x')
    (hy : WF y) (hy' : WF y') (hsub : ∀ d ∈ x.dims, d ∈ y.dims)
    (hxx : x'.dims.Perm x.dims) (hyy : LabelEq y y') :
    ∃ r r', x.setitem? .ellipsis (.arr y) = some r ∧ x'.setitem? .ellipsis (.arr y') = some r' ∧
      r.dims = x.dims ∧ r'.dims = x'.dims ∧ ∀ e, Valid x.dims e → r'.at e = r.at e := by
  have hsub' : ∀ d ∈ x'.dims, d ∈ y'.dims :=
    fun d hd => hyy.1.mem_iff.mpr (hsub d (hxx.mem_iff.mp hd))
  obtain ⟨r, h1, h2, _, h4⟩ := C05.setitem_whole_array x y hx hy hsub
  obtain ⟨r', h1', h2', _, h4'⟩ := C05.setitem_whole_array x' y' hx' hy' hsub'
  refine ⟨r, r', h1, h1', h2, h2', fun e hve => ?_⟩
  have hve' : Valid x'.dims e := fun d hd => hve d (hxx.mem_iff.mp hd)
  rw [h4 e hve, h4' e hve']
  exact margin_labelEq y y' hy' hyy _ _ (fun c => (mem_letters_perm hxx c).symm) e

/-! ### non-vacuity: a transposed pair with equal lengths -/
def dA : Dim := { letter := 'a', name := "aa", items := [.int 1, .int 2] }
def dB : Dim := { letter := 'b', name := "bb", items := [.str "x", .str "y"] }
def exX : FArr Int := ⟨[dA, dB], ND.ofFlat [2, 2] #[1, 2, 3, 4] 0⟩
example : WF exX ∧ ([dB, dA] : DimSet).Perm exX.dims ∧ (letters [dB, dA]).Nodup := by decide +kernel
example : (permute exX [dB, dA]).values.toList = [1, 3, 2, 4] := by decide +kernel

end Flodym.C04
