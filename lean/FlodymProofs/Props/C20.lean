import Flodym.Export
import FlodymProofs.Props.C06
/-!
# C20 — Sankey links and plotted lines carry the system's numbers under the right labels

Structure theorems about the link assembly (`Flodym.Export.sankey?`) and the line decomposition of
the array plotters (`Flodym.Export.plotLines?`), for systems with any number of processes and flows
and arrays of any shape. What a slice `f[{letter: item}]`, a sum over the remaining dimensions and a
`split` mean at the level of labels is `C06.getitem_reads_addressed`, `sumValuesToL_spec` /
`sumValues_eq_total` (which `C07.sumTo_marginals` instantiates) and `C06.split_pieces`; the figures themselves (plotly / matplotlib objects) are observed by the `plot`
correspondence stream.
-/
namespace Flodym.C20
open Flodym Flodym.Export DimSet

/-! ## Sankey -/

/-- what a successful `sankey?` says: the validators pass, every shown flow gives its links, the nodes
are the shown processes and the links are the flows' links in flow order -/
theorem sankey?_eq_some_iff {m : MFA} {cfg : SankeyCfg} {nodes : List String} {links : List Link} :
    sankey? m cfg = some (nodes, links) ↔ sankeyValid m cfg = true ∧
      ∃ per, (sankeyFlows m cfg).mapM (flowLinks? m cfg) = some per ∧
        nodes = shownProcesses m cfg ∧ links = per.flatten := by
  unfold sankey?
  cases sankeyValid m cfg
  · exact ⟨fun h => (nomatch h), fun h => (nomatch h.1)⟩
  · refine ⟨fun h => ?_, fun ⟨_, per, hp, hn, hl⟩ => ?_⟩
    · obtain ⟨per, hp, h⟩ := Option.map_eq_some_iff.mp h
      cases h
      exact ⟨rfl, per, hp, rfl, rfl⟩
    · subst hn hl
      exact Option.map_eq_some_iff.mpr ⟨per, hp, rfl⟩

/-- **excluded processes are never shown as nodes; every other process is, in process order** -/
theorem nodes_are_the_shown_processes (m : MFA) (cfg : SankeyCfg) (nodes : List String) (links : List Link)
    (h : sankey? m cfg = some (nodes, links)) :
    nodes = m.sys.processes.filter (fun p => !(cfg.excludeProcesses.contains p)) ∧
    ∀ p ∈ cfg.excludeProcesses, p ∉ nodes := by
  obtain ⟨_, _, _, rfl, _⟩ := sankey?_eq_some_iff.mp h
  exact ⟨rfl, fun p hp hmem => not_contains_eq_true_iff.mp (List.mem_filter.mp hmem).2 hp⟩

/-- a flow that is excluded, or touches an excluded process, is not among the shown flows -/
theorem excluded_flows_not_shown (m : MFA) (cfg : SankeyCfg) (f : FlowM)
    (h : f.name ∈ cfg.excludeFlows ∨ f.fromP ∈ cfg.excludeProcesses ∨ f.toP ∈ cfg.excludeProcesses) :
    f ∉ sankeyFlows m cfg := by
  intro hmem
  have := (List.mem_filter.mp hmem).2
  unfold flowShown at this
  rcases h with h | h | h <;> simp [h] at this

/-- **the links are exactly those of the shown flows, flow by flow, in flow order** -/
theorem links_come_from_shown_flows (m : MFA) (cfg : SankeyCfg) (nodes : List String) (links : List Link)
    (h : sankey? m cfg = some (nodes, links)) :
    ∃ per : List (List Link), (sankeyFlows m cfg).mapM (flowLinks? m cfg) = some per ∧ links = per.flatten ∧
      per.length = (sankeyFlows m cfg).length := by
  obtain ⟨_, per, hp, _, hl⟩ := sankey?_eq_some_iff.mp h
  exact ⟨per, hp, hl, length_of_mapM hp⟩

/-- what a successful `flowLinks?` says: both ends are shown, the slice succeeds, and the links are
the one (unsplit) or the per-item ones (split) -/
theorem flowLinks?_eq_some {m : MFA} {cfg : SankeyCfg} {f : FlowM} {ls : List Link}
    (h : flowLinks? m cfg f = some ls) :
    f.fromP ∈ shownProcesses m cfg ∧ f.toP ∈ shownProcesses m cfg ∧
    ∃ sliced, f.arr.getitem? (.dict ((cfg.slice.filter fun kv => f.arr.letters.any (·.toString == kv.1)).map
                  fun kv => (kv.1, Sel.item kv.2))) = some sliced ∧
      match cfg.split.find? (·.1 == f.name) with
      | none => ls = [{ source := (shownProcesses m cfg).idxOf f.fromP, target := (shownProcesses m cfg).idxOf f.toP,
                        value := sliced.sumValues, label := .str f.name }]
      | some (_, dimKey, ncol) =>
        ∃ d values, lookup? m.dims dimKey = some d ∧ sliced.sumValuesToL? [d.letter] = some values ∧
          ls = (List.range (min d.items.length (min ncol (values.shape.headD 0)))).map fun i =>
            { source := (shownProcesses m cfg).idxOf f.fromP, target := (shownProcesses m cfg).idxOf f.toP,
              value := values.get [i], label := Table.Cell.ofItem (d.items.getD i default) } := by
  -- the `do` block of `flowLinks?`, bind by bind (the unifier unfolds the definition)
  obtain ⟨s, hs, h⟩ := Option.bind_eq_some_iff.mp h
  obtain ⟨t, ht, h⟩ := Option.bind_eq_some_iff.mp h
  obtain ⟨sliced, hg, h⟩ := Option.bind_eq_some_iff.mp h
  obtain ⟨hs', rfl⟩ := of_ite_eq_some hs
  obtain ⟨ht', rfl⟩ := of_ite_eq_some ht
  refine ⟨List.idxOf_lt_length_iff.mp hs', List.idxOf_lt_length_iff.mp ht', sliced, hg, ?_⟩
  generalize cfg.split.find? (·.1 == f.name) = o at h ⊢
  rcases o with _ | ⟨_, dimKey, ncol⟩
  · exact Option.some.inj h.symm
  · obtain ⟨d, hd, h⟩ := Option.bind_eq_some_iff.mp h
    obtain ⟨values, hv, h⟩ := Option.bind_eq_some_iff.mp h
    exact ⟨d, values, hd, hv, Option.some.inj h.symm⟩

/-- **an unsplit flow gives one link**: from the node of its source to the node of its target (their
positions among the shown processes), labelled with the flow's name, carrying the total of the
flow after the slice (only the slice entries whose dimension the flow has) -/
theorem unsplit_flow_link (m : MFA) (cfg : SankeyCfg) (f : FlowM) (hsplit : cfg.split.find? (·.1 == f.name) = none)
    (ls : List Link) (h : flowLinks? m cfg f = some ls) :
    ∃ sliced, f.arr.getitem? (.dict ((cfg.slice.filter fun kv => f.arr.letters.any (·.toString == kv.1)).map
                  fun kv => (kv.1, Sel.item kv.2))) = some sliced ∧
      ls = [{ source := (shownProcesses m cfg).idxOf f.fromP, target := (shownProcesses m cfg).idxOf f.toP,
              value := sliced.sumValues, label := .str f.name }] ∧
      f.fromP ∈ shownProcesses m cfg ∧ f.toP ∈ shownProcesses m cfg := by
  obtain ⟨hs, ht, sliced, hg, h⟩ := flowLinks?_eq_some h
  rw [hsplit] at h
  exact ⟨sliced, hg, h, hs, ht⟩

/-- **a flow split by a dimension gives one link per item of that dimension** (as far as colours
were given), each carrying the flow's total for that item after the slice -/
theorem split_flow_links (m : MFA) (cfg : SankeyCfg) (f : FlowM) (dimKey : String) (ncol : Nat)
    (hsplit : cfg.split.find? (·.1 == f.name) = some (f.name, dimKey, ncol))
    (ls : List Link) (h : flowLinks? m cfg f = some ls) :
    ∃ (sliced : FArr FV) (d : Dim) (values : ND FV), lookup? m.dims dimKey = some d ∧ sliced.sumValuesToL? [d.letter] = some values ∧
      ls.length = min d.items.length (min ncol (values.shape.headD 0)) ∧
      ∀ i (hi : i < ls.length), ls[i].value = values.get [i] ∧
        ls[i].label = Table.Cell.ofItem (d.items.getD i default) := by
  obtain ⟨_, _, sliced, _, h⟩ := flowLinks?_eq_some h
  rw [hsplit] at h
  obtain ⟨d, values, hd, hv, rfl⟩ := h
  refine ⟨sliced, d, values, hd, hv, by rw [List.length_map, List.length_range], fun i hi => ?_⟩
  rw [List.getElem_map, List.getElem_range]
  exact ⟨rfl, rfl⟩

/-- unless told otherwise the plotter leaves out exactly the system environment -/
theorem source_default_exclusion : Gen.sankeyDefaultExclude = [Gen.sysenvName] := rfl

/-! ## array plotters -/

/-- **a one-dimensional array gives one line**: x the items of the dimension, y the entries in item order -/
theorem one_line (a : FArr Rat) (d : Dim) (hd : a.dims = [d]) (key : String) (hk : lookup? a.dims key = some d)
    (ls : List Line) (h : plotLines? a { intra := key } none = some ls) :
    ls = [{ subplot := 0, line := 0, label := none, x := d.items.map Table.Cell.ofItem, y := a.values.toList }] := by
  unfold plotLines? at h
  obtain ⟨_, h⟩ := Option.ite_none_left_eq_some.mp h
  rw [hk] at h
  -- one subplot, one line: the two `mapM`s run over one element each
  dsimp only [Option.bind_eq_bind, Option.bind_some, slices?, List.length, List.range, List.range.loop, List.zip,
    List.zipWith, List.map, mapM_singleton] at h
  have hn : (names a.dims != [d.name]) = false := by rw [hd]; exact bne_self_eq_false _
  rw [hn] at h
  exact (Option.some.inj h).symm

/-- **the slices the plotters draw are the reads `array[{dim: item}]`, item by item** (so the y-data
of the line for an item are the entries carrying that item: C06 `getitem_reads_addressed`) -/
theorem slices_are_reads (a : FArr Rat) (key : String) (d : Dim) (hl : lookup? a.dims key = some d)
    (ps : List (Option Item × FArr Rat)) (h : slices? a (some key) = some ps) :
    ps.map (·.1) = d.items.map some ∧
    ∀ p ∈ ps, ∃ it, p.1 = some it ∧ a.getitem? (.dict [(key, .item it)]) = some p.2 := by
  obtain ⟨qs, hs, rfl⟩ := Option.map_eq_some_iff.mp h
  obtain ⟨h1, h2⟩ := C06.split_pieces a key d hl qs hs
  exact ⟨by rw [← h1, List.map_map, List.map_map]; rfl, List.forall_mem_map.mpr fun q hq => ⟨q.1, rfl, h2 q hq⟩⟩

/-- without a subplot / line dimension there is a single slice: the array itself -/
theorem no_split_single (a : FArr Rat) : slices? a none = some [(none, a)] := rfl

/-- an array that fails `check_dims` is refused -/
theorem plotLines?_of_not_valid {a : FArr Rat} {cfg : PlotCfg} {x : Option (FArr Rat)}
    (h : plotValid a cfg x = false) : plotLines? a cfg x = none :=
  if_pos (congrArg (! ·) h)

/-- an array one of whose dimensions has no role is refused -/
theorem missing_role_refused (a : FArr Rat) (cfg : PlotCfg) (x : Option (FArr Rat)) (n : String) (hn : n ∈ names a.dims)
    (h : ∀ k ∈ [cfg.linecolor, cfg.subplot, some cfg.intra].filterMap id, (lookup? a.dims k).map (·.name) ≠ some n) :
    plotLines? a cfg x = none := by
  -- `plotValid` is (keys known && every dimension name has a role) && the x array fits: the second test fails at `n`
  refine plotLines?_of_not_valid (Bool.and_eq_false_iff.mpr (.inl (Bool.and_eq_false_iff.mpr (.inr
    (List.all_eq_false.mpr ⟨n, hn, fun hany => ?_⟩)))))
  obtain ⟨k, hk, hkn⟩ := List.any_eq_true.mp hany
  exact h k hk (eq_of_beq hkn)

/-! ## non-vacuity -/

def dT : Dim := { letter := 't', name := "time", items := [.int 2000, .int 2001] }
def dR : Dim := { letter := 'r', name := "region", items := [.str "EU", .str "AS"] }
def arr : FArr Rat := ⟨[dT, dR], ND.ofFlat [2, 2] #[10, 11, 12, 13] 0⟩

example : (plotLines? arr { intra := "time", linecolor := some "r" } none).map
    (fun ls => ls.map fun l => (l.subplot, l.line, l.label, l.y)) =
    some [(0, 0, some (.str "EU"), [10, 12]), (0, 1, some (.str "AS"), [11, 13])] := by decide +kernel

def sys : SysM :=
  { processes := ["sysenv", "use", "waste"],
    flows := [{ name := "a", fromP := "sysenv", toP := "use", arr := ⟨[dT], ND.ofFlat [2] #[.num 1, .num 2] (.num 0)⟩ },
              { name := "b", fromP := "use", toP := "waste", arr := ⟨[dT, dR], ND.ofFlat [2, 2] #[.num 1, .num 2, .num 3, .num 4] (.num 0)⟩ }],
    stocks := [] }

example : (sankey? { dims := [dT, dR], sys := sys } { slice := [("t", .int 2001)] }).map
    (fun r => (r.1, r.2.map fun l => (l.source, l.target, l.value))) =
    some (["use", "waste"], [(0, 1, .num 7)]) := by decide +kernel

end Flodym.C20
