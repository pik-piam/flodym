import FlodymProofs.Props.C03
import FlodymProofs.Lemmas.Cast
import FlodymGen.ParamExpr
/-!
# C08 — survival tables are valid and equal the declared lifetime distribution

`Q` = quadrature points and weights `(η_q, w_q)`; `Sq q c t j` = what `_survival_by_year_id`
returns for point q, cohort c, year t, label j. The scipy survival functions are a parameter of the
model (`S`), assumed to be the named distribution's survival function: non-increasing in age with
values in [0,1]; what is proved here is that flodym evaluates it at the right ages with the right
arguments and assembles a valid table. The ten quadrature tables are in `C08Tables.lean`.
-/
open Finset BigOperators
namespace Flodym.C08
open Flodym Flodym.DSM

variable {K : Type}

/-- zero for cohorts later than the year -/
theorem sf_lowerTri [Field K] (Q : List (K × K)) (Sq : Nat → Nat → Nat → Nat → K) :
    LowerTri (sfTable Q Sq) :=
  fun _ _ _ h => if_pos h

/-- each entry is the quadrature average of the survival function values -/
theorem sf_entry [Field K] (Q : List (K × K)) (Sq : Nat → Nat → Nat → Nat → K) (t c j : Nat) (h : c ≤ t) :
    sfTable Q Sq t c j = ∑ q ∈ range Q.length, (Q.getD q (0, 0)).2 * Sq q c t j :=
  (if_neg (Nat.not_lt.2 h)).trans sumList_range_map

/-- … evaluated at the age from the inflow instant `η_q` of the cohort's interval to the end of
year t: `bounds(t+1) − (η·bounds(c+1) + (1−η)·bounds(c))`, with the cohort's own parameters -/
theorem sf_entry_at_ages [Field K] (it : Nat → K) (n : Nat) (Q : List (K × K))
    (S : K → Nat → Nat → K) (t c j : Nat) (h : c ≤ t) :
    sfTable Q (fun q c t j => S (age it n (Q.getD q (0, 0)).1 c t) c j) t c j
      = ∑ q ∈ range Q.length,
          (Q.getD q (0, 0)).2 * S (bounds it n (t + 1)
            - ((Q.getD q (0, 0)).1 * bounds it n (c + 1) + (1 - (Q.getD q (0, 0)).1) * bounds it n c)) c j :=
  sf_entry Q _ t c j h

section order
variable [Field K] [LinearOrder K] [IsStrictOrderedRing K]

/-- the inflow instant lies inside the cohort's interval, so ages are non-negative at the end of
the cohort's own year and grow with every later year -/
theorem age_nonneg_increasing (it : Nat → K) (n : Nat) (hn : 3 ≤ n)
    (hinc : ∀ k, k + 1 < n → it k < it (k + 1)) (eta : K) (h0 : 0 ≤ eta) (h1 : eta ≤ 1)
    (c t : Nat) (hct : c ≤ t) (ht : t < n) :
    0 ≤ age it n eta c c ∧ (t + 1 < n → age it n eta c t < age it n eta c (t + 1)) := by
  refine ⟨?_, fun ht1 => ?_⟩
  · rw [age_self]
    exact mul_nonneg (sub_nonneg.2 h1) (C03.dt_pos it n hn hinc c (Nat.lt_of_le_of_lt hct ht)).le
  · rw [age_succ]
    exact lt_add_of_pos_right _ (C03.dt_pos it n hn hinc (t + 1) ht1)

/-- survival lies in [0, Σ w] (= [0,1] for a normalised rule; the printed Gauss–Lobatto weights sum
to one within 1e-15, see `mapped_rules` in `Props/C08Tables.lean`) -/
theorem sf_range (Q : List (K × K)) (Sq : Nat → Nat → Nat → Nat → K)
    (hw : ∀ q, q < Q.length → 0 ≤ (Q.getD q (0, 0)).2)
    (hS : ∀ q c t j, 0 ≤ Sq q c t j ∧ Sq q c t j ≤ 1) (t c j : Nat) :
    0 ≤ sfTable Q Sq t c j ∧ sfTable Q Sq t c j ≤ ∑ q ∈ range Q.length, (Q.getD q (0, 0)).2 := by
  by_cases h : c ≤ t
  · rw [sf_entry Q Sq t c j h]
    constructor
    · exact sum_nonneg (fun q hq => mul_nonneg (hw q (mem_range.mp hq)) (hS q c t j).1)
    · exact sum_le_sum fun q hq => mul_le_of_le_one_right (hw q (mem_range.mp hq)) (hS q c t j).2
  · rw [sf_lowerTri Q Sq t c j (Nat.lt_of_not_le h)]
    exact ⟨le_refl _, sum_nonneg (fun q hq => hw q (mem_range.mp hq))⟩

/-- survival never increases with age, when the survival function does not -/
theorem sf_antitone (Q : List (K × K)) (Sq : Nat → Nat → Nat → Nat → K)
    (hw : ∀ q, q < Q.length → 0 ≤ (Q.getD q (0, 0)).2)
    (hS : ∀ q c t j, c ≤ t → Sq q c (t + 1) j ≤ Sq q c t j) (t c j : Nat) (h : c ≤ t) :
    sfTable Q Sq (t + 1) c j ≤ sfTable Q Sq t c j := by
  rw [sf_entry Q Sq t c j h, sf_entry Q Sq (t + 1) c j (Nat.le_succ_of_le h)]
  exact sum_le_sum fun q hq => mul_le_mul_of_nonneg_left (hS q c t j h) (hw q (mem_range.mp hq))

/-- outflow probabilities are non-negative -/
theorem pdf_nonneg (sf : Nat → Nat → Nat → K) (hle : ∀ c j, sf c c j ≤ 1)
    (hanti : ∀ t c j, c ≤ t → sf (t + 1) c j ≤ sf t c j) (t c j : Nat) :
    0 ≤ pdfTable sf t c j := by
  have sub {a b : K} (h : a ≤ b) : 0 ≤ b - a := sub_nonneg.2 h
  unfold pdfTable
  rcases Nat.lt_trichotomy t c with h | rfl | h
  · rw [if_pos h]
  · rw [if_neg (Nat.lt_irrefl t), if_pos rfl]
    exact sub (hle t j)
  · obtain ⟨k, rfl⟩ := Nat.exists_eq_add_of_lt h
    rw [if_neg (Nat.lt_asymm h), if_neg (Nat.ne_of_gt h)]
    exact sub (hanti (c + k) c j (Nat.le_add_right c k))

end order

/-- survival(t,c) + Σ_{s ≤ t} outflow probability(s,c) = 1 -/
theorem sf_add_cumulative_pdf [Field K] (Q : List (K × K)) (Sq : Nat → Nat → Nat → Nat → K)
    (t c j : Nat) (h : c ≤ t) :
    sfTable Q Sq t c j + ∑ s ∈ range (t + 1), pdfTable (sfTable Q Sq) s c j = 1 := by
  rw [pdf_cumsum (sf_lowerTri Q Sq) c j t, if_pos h, add_sub_cancel]

/-- parameters given as arrays of any subset of the dimensions, in any storage order, apply per
label and per cohort: the cast to the model's dimensions keeps every entry under its labels -/
theorem parameter_applies_by_label {α : Type} [AddCommMonoid α] (prm : FArr α) (modelDims : DimSet)
    (hp : WF prm) (hT : (DimSet.letters modelDims).Nodup) (hc : Compatible prm.dims modelDims)
    (hsub : ∀ l ∈ prm.letters, l ∈ DimSet.letters modelDims) :
    ∃ r, prm.castTo? modelDims = some r ∧ r.dims = modelDims ∧
      ∀ e, Valid modelDims e → r.at e = prm.at e := by
  obtain ⟨r, h1, h2, _, h4⟩ := castTo_spec prm modelDims hp hT hc hsub
  exact ⟨r, h1, h2, h4⟩

/-! ## the arguments handed to scipy are those of the declared distribution (over ℝ) -/

open Real

/-- `e^{s²} = 1 + sd²/m²`, whatever `m` and `sd` -/
theorem exp_lognormS_sq (m sd : ℝ) : exp (Gen.lognormS m sd ^ 2) = 1 + sd * sd / (m * m) := by
  have h : 1 ≤ 1 + sd * sd / (m * m) :=
    le_add_of_nonneg_right (div_nonneg (mul_self_nonneg sd) (mul_self_nonneg m))
  rw [Gen.lognormS, sq_sqrt (log_nonneg h), exp_log (one_pos.trans_le h)]

/-- what mean and variance share, with `scale = exp μ = m²/√(m²+sd²)`:
`e^{2μ+s²} = scale² · e^{s²} = m⁴/(m²+sd²) · (m²+sd²)/m² = m²` -/
theorem exp_two_mu_add_sq (m sd : ℝ) (hm : 0 < m) :
    exp (2 * log (Gen.lognormScale m sd) + Gen.lognormS m sd ^ 2) = m * m := by
  have hmm : 0 < m * m := mul_pos hm hm
  have hv : 0 < m * m + sd * sd := add_pos_of_pos_of_nonneg hmm (mul_self_nonneg sd)
  rw [Gen.lognormScale, log_exp, exp_add, two_mul, exp_add, exp_log (div_pos hmm (sqrt_pos.2 hv)),
    exp_lognormS_sq, div_mul_div_comm, mul_self_sqrt hv.le, one_add_div hmm.ne',
    div_mul_div_cancel₀ hv.ne', mul_self_div_self]

/-- log-normal: with `s`, `loc = 0`, `scale = exp μ` as computed by the code, the distribution's own
mean `exp(μ + s²/2)` is the given mean … -/
theorem lognormal_mean (m sd : ℝ) (hm : 0 < m) :
    Gen.lognormLoc m sd = 0 ∧
    Real.exp (Real.log (Gen.lognormScale m sd) + (Gen.lognormS m sd) ^ 2 / 2) = m := by
  refine ⟨rfl, ?_⟩
  rw [← mul_div_cancel_left₀ (log (Gen.lognormScale m sd)) two_ne_zero, ← add_div, exp_half,
    exp_two_mu_add_sq m sd hm, sqrt_mul_self hm.le]

/-- … and its variance `(exp(s²) − 1)·exp(2μ + s²)` is the given standard deviation squared -/
theorem lognormal_variance (m sd : ℝ) (hm : 0 < m) :
    (Real.exp ((Gen.lognormS m sd) ^ 2) - 1)
      * Real.exp (2 * Real.log (Gen.lognormScale m sd) + (Gen.lognormS m sd) ^ 2) = sd ^ 2 := by
  rw [exp_two_mu_add_sq m sd hm, exp_lognormS_sq, add_sub_cancel_left,
    div_mul_cancel₀ _ (mul_pos hm hm).ne', sq]

/-- normal: location = mean, scale = standard deviation -/
theorem normal_args (m sd : ℝ) : Gen.normLoc m sd = m ∧ Gen.normScale m sd = sd := ⟨rfl, rfl⟩

/-- folded normal: scipy's `foldnorm(c, loc, scale)` is |X| with X ~ N(c·scale, scale²) shifted by
loc; the code passes c = mean/std, loc = 0, scale = std, i.e. X ~ N(mean, std²) -/
theorem foldnorm_args (m sd : ℝ) (hs : sd ≠ 0) :
    Gen.foldnormC m sd * Gen.foldnormScale m sd = m ∧ Gen.foldnormScale m sd = sd ∧ Gen.foldnormLoc m sd = 0 :=
  ⟨div_mul_cancel₀ m hs, rfl, rfl⟩

/-- Weibull: shape and scale passed through, no shift -/
theorem weibull_args (k lam : ℝ) :
    Gen.weibullC k lam = k ∧ Gen.weibullScale k lam = lam ∧ Gen.weibullLoc k lam = 0 := ⟨rfl, rfl, rfl⟩

/-- fixed lifetime: the whole cohort is present while its age is below the lifetime, gone after -/
theorem fixed_sf (t m : ℝ) :
    Gen.fixedSf t m = (if t < m then 1 else 0) ∧ 0 ≤ Gen.fixedSf t m ∧ Gen.fixedSf t m ≤ 1 ∧
    ∀ t', t ≤ t' → Gen.fixedSf t' m ≤ Gen.fixedSf t m := by
  have h01 (s : ℝ) : 0 ≤ Gen.fixedSf s m ∧ Gen.fixedSf s m ≤ 1 := by
    unfold Gen.fixedSf
    split
    · exact ⟨zero_le_one, le_rfl⟩
    · exact ⟨le_rfl, zero_le_one⟩
  refine ⟨rfl, (h01 t).1, (h01 t).2, fun t' h => ?_⟩
  by_cases h1 : t' < m
  · rw [Gen.fixedSf, Gen.fixedSf, if_pos h1, if_pos (h.trans_lt h1)]
  · rw [Gen.fixedSf, if_neg h1]
    exact (h01 t).1

end Flodym.C08
