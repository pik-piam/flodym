import Flodym.Export
import FlodymProofs.Lemmas.Build
import FlodymProofs.Props.C11
/-!
# C19 — exports reproduce every flow and stock under its labels

The exported dictionary, the list of CSV files and the definition tables, for systems with any
number of flows and stocks. The CSV *text* is pandas' business (correspondence stream `export`); what
`from_df` makes of the rows `to_df` wrote is C11's round-trip theorem, restated here for exports.
-/
namespace Flodym.C19
open Flodym Flodym.Export Flodym.Build DimSet

/-! ## file names -/

/-- **sanitised names consist of (ASCII) letters, digits and underscores only** -/
theorem fileName_chars (s : String) : ∀ c ∈ (toValidFileName s).toList, c.isAlphanum = true ∨ c = '_' := by
  intro c hc
  unfold toValidFileName at hc
  rw [String.toList_ofList] at hc
  -- stripping only drops characters at both ends, so `c` is what the replacement step made of a kept character `k`
  obtain ⟨k, hk, rfl⟩ := List.mem_map.mp ((List.dropWhile_sublist _).subset
    (List.mem_reverse.mp ((List.dropWhile_sublist _).subset (List.mem_reverse.mp hc))))
  have hk2 := (List.mem_filter.mp hk).2
  split
  · exact Or.inr rfl
  · next hd =>
    -- `k` is neither '-' nor a space, so it was kept as a word character
    have hw : isWordChar k = true :=
      (by decide : ∀ a b c : Bool, (a || b || c) = true → ¬(c || b) = true → a = true) _ _ _ hk2 hd
    exact (Bool.or_eq_true _ _).mp hw |>.imp_right beq_iff_eq.mp

/-- **one CSV file per flow** -/
theorem one_file_per_flow (m : MFA) : (flowFiles m).length = m.sys.flows.length :=
  List.length_map _

/-- **one CSV file per exported stock quantity** -/
theorem files_per_stock (m : MFA) (w : Bool) :
    (stockFiles m w).length = m.sys.stocks.length * (if w then 3 else 1) := by
  unfold stockFiles
  induction m.sys.stocks with
  | nil => exact (Nat.zero_mul _).symm
  | cons s ss ih =>
    -- the files of `s` (1 or 3, by cases on `w`), then those of the other stocks
    rw [List.flatMap_cons, List.length_append, ih, List.length_cons, Nat.succ_mul, Nat.add_comm]
    cases w <;> rfl

/-- names that stay distinct after sanitising give distinct files -/
theorem flow_files_distinct (m : MFA) (h : (m.sys.flows.map fun f => toValidFileName f.name).Nodup) :
    (flowFiles m).Nodup := by
  -- the file names are the sanitised names with ".csv" appended, and appending is injective
  have : flowFiles m = (m.sys.flows.map fun f => toValidFileName f.name).map (· ++ ".csv") := by
    rw [List.map_map]; rfl
  rw [this]
  exact h.map fun _ _ hab => (String.append_left_inj ".csv").mp hab

/-! ## the dictionary -/

/-- **every flow is in the dictionary under its name with exactly its values, letters, source and
target** (flow names are dictionary keys, hence distinct) -/
theorem flow_exported (m : MFA) (hnd : (m.sys.flows.map (·.name)).Nodup) (f : FlowM) (hf : f ∈ m.sys.flows) :
    dictGet? (convertToDict m).flows f.name = some f.arr ∧
    dictGet? (convertToDict m).flowDimensions f.name = some f.arr.letters ∧
    dictGet? (convertToDict m).flowProcesses f.name = some (f.fromP, f.toP) :=
  ⟨dictGet?_map m.sys.flows FlowM.name FlowM.arr hnd f hf,
   dictGet?_map m.sys.flows FlowM.name (fun f => f.arr.letters) hnd f hf,
   dictGet?_map m.sys.flows FlowM.name (fun f => (f.fromP, f.toP)) hnd f hf⟩

/-- **every stock likewise; its process only when it has one** -/
theorem stock_exported (m : MFA) (hnd : (m.sys.stocks.map (·.name)).Nodup) (s : StockM) (hs : s ∈ m.sys.stocks) :
    dictGet? (convertToDict m).stocks s.name = some s.stock ∧
    dictGet? (convertToDict m).stockDimensions s.name = some s.stock.letters ∧
    (∀ p, s.process = some p → (s.name, p) ∈ (convertToDict m).stockProcesses) ∧
    (s.process = none → ∀ p, (s.name, p) ∉ (convertToDict m).stockProcesses) := by
  refine ⟨dictGet?_map m.sys.stocks StockM.name StockM.stock hnd s hs,
    dictGet?_map m.sys.stocks StockM.name (fun s => s.stock.letters) hnd s hs, ?_, ?_⟩
  · intro p hp
    exact List.mem_filterMap.mpr ⟨s, hs, by rw [hp]; rfl⟩
  · intro hnone p hmem
    obtain ⟨s', hs', hq⟩ := List.mem_filterMap.mp hmem
    obtain ⟨q, hq, heq⟩ := Option.map_eq_some_iff.mp hq
    -- another stock of the same name would contradict the distinct names
    have : s' = s := inj_of_nodup_map hnd hs' hs (Prod.mk.inj heq).1
    rw [this, hnone] at hq
    cases hq

/-- nothing else is in there -/
theorem dictionary_sizes (m : MFA) :
    (convertToDict m).flows.length = m.sys.flows.length ∧ (convertToDict m).stocks.length = m.sys.stocks.length ∧
    (convertToDict m).processes = m.sys.processes ∧
    (convertToDict m).dimensionNames = m.dims.map (fun d => (d.letter.toString, d.name)) ∧
    (convertToDict m).dimensionItems = m.dims.map (fun d => (d.name, d.items)) :=
  ⟨List.length_map _, List.length_map _, rfl, rfl, rfl⟩

/-- **the pandas / CSV form read back with `from_df` gives the array back** (C11 for the exported rows) -/
theorem exported_rows_read_back (x : FArr Rat) (hit : ∀ d ∈ x.dims, d.items.Nodup) :
    ∃ v, Table.complete? x.dims (C11.exported x) false false = some v ∧ v.shape = shape x.dims ∧
      ∀ idx ∈ allIdx (shape x.dims), v.get idx = x.values.get idx :=
  C11.roundtrip_rows x hit

/-! ## definition tables -/

/-- **one table per non-empty kind of definition, one row per definition** -/
theorem defTables_flows (dims : List Dim) (d : MFADef) (h : d.flows ≠ []) :
    ∃ rows, ("flows", ["dim_letters", "from_process_name", "to_process_name", "name_override"], rows) ∈ defTables dims d ∧
      rows.length = d.flows.length := by
  refine ⟨d.flows.map fun f => [showLetters f.letters, f.fromName, f.toName, f.nameOverride.getD "None"], ?_,
    List.length_map _⟩
  refine List.mem_filter.mpr ⟨?_, ?_⟩
  · -- the third of the five tables
    exact List.mem_cons_of_mem _ (List.mem_cons_of_mem _ List.mem_cons_self)
  · show (!(List.map _ d.flows).isEmpty) = true
    rw [List.isEmpty_map, Bool.not_eq_true', List.isEmpty_eq_false_iff]
    exact h

theorem defTables_no_empty_kind (dims : List Dim) (d : MFADef) :
    ∀ t ∈ defTables dims d, t.2.2 ≠ [] := by
  intro t ht hnil
  have h := (List.mem_filter.mp ht).2
  rw [hnil] at h
  cases h

/-! ## the source as the model reads it (regenerated on every run) -/

/-- the exported dictionary has exactly the nine keys the model's record has, in this order, and the
stock quantities written to CSV are stock, inflow, outflow -/
theorem source_export_sites :
    Gen.exportKeys = ["dimension_names", "dimension_items", "processes", "flows", "flow_dimensions",
      "flow_processes", "stocks", "stock_dimensions", "stock_processes"] ∧
    Gen.stockCsvAttributes = ["stock", "inflow", "outflow"] :=
  ⟨rfl, rfl⟩

/-! ## non-vacuity -/

example : toValidFileName "Waste (mixed) -> Landfill!" = "waste_mixed___landfill" := by decide +kernel
example : toValidFileName "sysenv => use" = "sysenv__use" := by decide +kernel
example : toValidFileName "_In Use_" = "in_use" := by decide +kernel

end Flodym.C19
