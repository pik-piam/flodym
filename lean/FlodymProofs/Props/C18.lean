import FlodymProofs.Lemmas.Build
import FlodymGen.IOSites
/-!
# C18 — systems built from definitions and files match what was defined

Theorems about `Flodym/Build.lean` (tied to the code by stream `build`). Everything is for lists of
any length; names are arbitrary strings.
-/
namespace Flodym.C18
open Flodym Flodym.Build DimSet

/-! ## processes: numbered in the listed order, the system environment first -/

/-- the dictionary `make_processes` must produce: name ↦ (name, position) -/
def numbered (names : List String) (k : Nat) : List (String × ProcessM) :=
  (List.zip (List.range' k names.length) names).map fun p => (p.2, { name := p.2, id := p.1 })

/-- **anything but the system environment in first place is refused** -/
theorem processes_refused (n : String) (rest : List String) (h : n ≠ Gen.sysenvName) :
    makeProcesses? (n :: rest) = none := by
  refine buildDict_none (0, n) ?_ (congrArg (Option.map _) (mkProcess?_zero n h))
  rw [List.length_cons, List.range_succ_eq_map, List.zip_cons_cons]
  exact List.mem_cons_self

/-- **processes are numbered in the listed order** (distinct names, the environment first) -/
theorem processes_numbered (rest : List String) (hnd : (Gen.sysenvName :: rest).Nodup) :
    makeProcesses? (Gen.sysenvName :: rest) = some (numbered (Gen.sysenvName :: rest) 0) := by
  unfold makeProcesses? numbered
  rw [List.range_eq_range']
  apply buildDict_spec
  · rintro ⟨i, n⟩ hp
    refine congrArg (Option.map _) (mkProcess?_eq_some n i ?_)
    -- position 0 is the head of the list, every later position is positive
    rintro rfl
    rw [List.length_cons, List.range'_succ, List.zip_cons_cons, List.mem_cons] at hp
    rcases hp with hp | hp
    · exact (Prod.mk.inj hp).2
    · exact absurd (List.mem_range'_1.mp (List.of_mem_zip hp).1).1 (by omega)
  · show ((List.zip (List.range' 0 (Gen.sysenvName :: rest).length) (Gen.sysenvName :: rest)).map (·.2)).Nodup
    rw [List.map_snd_zip (by simp)]
    exact hnd

/-- every listed name gets its position as id -/
theorem process_id_is_position (names : List String) (k i : Nat) (h : i < names.length) :
    (numbered names k)[i]? = some (names[i], { name := names[i], id := k + i }) := by
  unfold numbered
  simp [h]

/-! ## flows -/

/-- **one flow of a definition**: from the named source to the named target, under the overriding or
generated name, over exactly the listed dimensions (in the listed order, taken from the system's
dimension set) -/
theorem flow_spec (procs : List (String × ProcessM)) (hk : (procs.map (·.1)).Nodup) (dims : DimSet)
    (hnd : (letters dims).Nodup) (hn : NamesOk dims) (naming : Naming) (fd : FlowDef) (f t : ProcessM)
    (hf : (fd.fromName, f) ∈ procs) (ht : (fd.toName, t) ∈ procs)
    (ds : List Dim) (hds : ∀ d ∈ ds, d ∈ dims) (hdn : (letters ds).Nodup)
    (hl : fd.letters = (letters ds).map (·.toString)) :
    flowOf? procs dims naming fd =
      some { name := (match fd.nameOverride with | some n => n | none => flowName naming f t),
             fromP := f, toP := t, dims := ds } := by
  unfold flowOf?
  rw [dictGet?_mem hk hf, dictGet?_mem hk ht, hl, getSubset?_letters dims hnd hn ds hds hdn]
  rfl

/-- a flow naming a process that was not listed is refused -/
theorem flow_unknown_process (procs : List (String × ProcessM)) (dims : DimSet) (naming : Naming) (fd : FlowDef)
    (h : (∀ e ∈ procs, e.1 ≠ fd.fromName) ∨ (∀ e ∈ procs, e.1 ≠ fd.toName)) :
    flowOf? procs dims naming fd = none := by
  unfold flowOf?
  rcases h with h | h
  · rw [dictGet?_none h]; rfl
  · rw [dictGet?_none h]
    cases dictGet? procs fd.fromName <;> rfl

/-- a flow over a dimension the system does not have is refused -/
theorem flow_unknown_dimension (procs : List (String × ProcessM)) (dims : DimSet) (naming : Naming) (fd : FlowDef)
    (key : String) (hk : key ∈ fd.letters) (h : ∀ d ∈ dims, d.name ≠ key ∧ d.letter.toString ≠ key) :
    flowOf? procs dims naming fd = none := by
  unfold flowOf?
  rw [getSubset?_unknown dims _ key hk h]
  cases dictGet? procs fd.fromName <;> cases dictGet? procs fd.toName <;> rfl

/-- **one flow per flow definition, in the defined order** (distinct names) -/
theorem flows_spec (procs : List (String × ProcessM)) (dims : DimSet) (naming : Naming) (defs : List FlowDef)
    (g : FlowDef → FlowM) (hg : ∀ fd ∈ defs, flowOf? procs dims naming fd = some (g fd))
    (hnd : (defs.map fun fd => (g fd).name).Nodup) :
    makeEmptyFlows? procs defs dims naming = some (defs.map fun fd => ((g fd).name, g fd)) :=
  buildDict_spec defs (fun fd => ((g fd).name, g fd)) (fun fd hfd => congrArg (Option.map _) (hg fd hfd)) hnd

/-- one refused flow definition refuses the whole system -/
theorem flows_refused (procs : List (String × ProcessM)) (dims : DimSet) (naming : Naming) (defs : List FlowDef)
    (fd : FlowDef) (hfd : fd ∈ defs) (h : flowOf? procs dims naming fd = none) :
    makeEmptyFlows? procs defs dims naming = none :=
  buildDict_none fd hfd (congrArg (Option.map _) h)

/-! ## stocks -/

/-- **one stock of a definition**: requested class, lifetime model, solver (for the class that has
one), time letter and process, over the listed dimensions — provided time comes first -/
theorem stock_spec (procs : List (String × ProcessM)) (hk : (procs.map (·.1)).Nodup) (dims : DimSet)
    (hnd : (letters dims).Nodup) (hn : NamesOk dims) (sd : StockDef) (tl : Char) (htl : sd.timeLetter = tl.toString)
    (proc : Option ProcessM)
    (hp : match sd.process, proc with
          | none, none => True
          | some p, some pr => (p, pr) ∈ procs
          | _, _ => False)
    (t : Dim) (rest : List Dim) (ht : t.letter = tl) (hds : ∀ d ∈ t :: rest, d ∈ dims) (hdn : (letters (t :: rest)).Nodup)
    (hl : sd.letters = (letters (t :: rest)).map (·.toString)) :
    stockOf? procs dims sd =
      some { name := sd.name, cls := sd.cls, lifetime := sd.lifetime,
             solver := if sd.cls.hasSolver then some sd.solver else none,
             timeLetter := sd.timeLetter, process := proc, dims := t :: rest } := by
  subst ht
  have hla : lifetimeAccepts (t :: rest) t.letter "middle" = true := by
    unfold lifetimeAccepts
    rw [lookup?_letter (t :: rest) hdn (fun d hd => hn d (hds d hd)) t List.mem_cons_self]
    simp [Gen.inflowAtAllowed, letters]
  unfold stockOf?
  rw [hl, getSubset?_letters dims hnd hn (t :: rest) hds hdn, resolveProc?_mem procs hk _ _ hp, htl, timeChar?_toString]
  -- time comes first: both construction-time validators accept
  simp only [hla, stockAccepts_nil, letters, List.map_cons, List.head?_cons, beq_self_eq_true, Bool.not_true,
    Bool.and_false, Bool.false_eq_true, if_false]

/-- **time anywhere but first is refused** when the stock is built -/
theorem stock_time_not_first (procs : List (String × ProcessM)) (dims : DimSet) (sd : StockDef) (sub : DimSet)
    (hs : getSubset? dims (some sd.letters) = some sub) (tl : Char) (htl : sd.timeLetter.toList = [tl])
    (h : (letters sub).head? ≠ some tl) : stockOf? procs dims sd = none := by
  have htc : timeChar? sd.timeLetter = some tl := by unfold timeChar?; rw [htl]
  unfold stockOf?
  rw [hs, htc]
  cases resolveProc? procs sd.process with
  | none => rfl
  | some pr => simp [stockAccepts_nil, h]

/-- a stock at a process that was not listed is refused -/
theorem stock_unknown_process (procs : List (String × ProcessM)) (dims : DimSet) (sd : StockDef) (p : String)
    (hp : sd.process = some p) (h : ∀ e ∈ procs, e.1 ≠ p) : stockOf? procs dims sd = none := by
  unfold stockOf?
  rw [hp, resolveProc?, dictGet?_none h]
  cases getSubset? dims (some sd.letters) <;> rfl

/-- **one stock per stock definition** (distinct names) -/
theorem stocks_spec (procs : List (String × ProcessM)) (dims : DimSet) (defs : List StockDef)
    (g : StockDef → StockM) (hg : ∀ sd ∈ defs, stockOf? procs dims sd = some (g sd))
    (hnd : (defs.map fun sd => (g sd).name).Nodup) :
    makeEmptyStocks? defs procs dims = some (defs.map fun sd => ((g sd).name, g sd)) :=
  buildDict_spec defs (fun sd => ((g sd).name, g sd)) (fun sd hsd => congrArg (Option.map _) (hg sd hsd)) hnd

theorem stocks_refused (procs : List (String × ProcessM)) (dims : DimSet) (defs : List StockDef)
    (sd : StockDef) (hsd : sd ∈ defs) (h : stockOf? procs dims sd = none) :
    makeEmptyStocks? defs procs dims = none :=
  buildDict_none sd hsd (congrArg (Option.map _) h)

/-! ## the whole definition -/

/-- `from_data_reader` succeeds exactly when the definition passes its validators and every stage builds; the
system holds what the stages built -/
theorem buildSystem?_eq_some_iff (d : MFADef) (dims : DimSet) (naming : Naming) (sys : SystemM) :
    buildSystem? d dims naming = some sys ↔
      d.valid = true ∧
      buildDict d.params (fun p => (getSubset? dims (some p.letters)).map fun sub => (p.name, sub)) = some sys.params ∧
      makeProcesses? d.processes = some sys.processes ∧
      makeEmptyFlows? sys.processes d.flows dims naming = some sys.flows ∧
      makeEmptyStocks? d.stocks sys.processes dims = some sys.stocks := by
  unfold buildSystem?
  cases d.valid
  · exact ⟨nofun, fun h => nomatch h.1⟩
  · simp only [Bool.not_true, Bool.false_eq_true, if_false, Option.bind_eq_bind, Option.bind_eq_some_iff,
      Option.some.injEq, true_and]
    constructor
    · rintro ⟨params, hpa, procs, hpr, flows, hfl, stocks, hst, rfl⟩; exact ⟨hpa, hpr, hfl, hst⟩
    · rintro ⟨hpa, hpr, hfl, hst⟩; exact ⟨_, hpa, _, hpr, _, hfl, _, hst, rfl⟩

/-! ## definitions that are refused as definitions -/

/-- a class that needs a lifetime model but gets none, or gets one it does not use -/
theorem lifetime_mismatch_invalid (sd : StockDef) (h : sd.lifetime.isSome ≠ sd.cls.hasLifetime) : sd.valid = false := by
  unfold StockDef.valid
  rw [beq_false_of_ne h, Bool.and_false]

theorem unknown_solver_invalid (sd : StockDef) (h : sd.solver ∉ Gen.solverNames) : sd.valid = false := by
  unfold StockDef.valid
  rw [Bool.eq_false_iff.mpr (mt List.contains_iff_mem.mp h), Bool.and_false, Bool.false_and]

/-- a definition that fails its validators builds nothing -/
theorem invalid_refused (d : MFADef) (dims : DimSet) (naming : Naming) (h : ¬ d.valid = true) :
    buildSystem? d dims naming = none :=
  Option.eq_none_iff_forall_ne_some.mpr fun sys hs => h ((buildSystem?_eq_some_iff d dims naming sys).mp hs).1

/-- **a definition with such a stock is refused** -/
theorem definition_with_invalid_stock_refused (d : MFADef) (dims : DimSet) (naming : Naming) (sd : StockDef)
    (hsd : sd ∈ d.stocks) (h : sd.valid = false) : buildSystem? d dims naming = none :=
  invalid_refused d dims naming fun hv => by rw [(d.valid_iff.mp hv).1.2.1 sd hsd] at h; cases h

/-- **a definition mentioning an undefined dimension letter is refused** (flows; the same test covers
stocks and parameters) -/
theorem definition_with_undefined_letter_refused (d : MFADef) (dims : DimSet) (naming : Naming) (fd : FlowDef)
    (hfd : fd ∈ d.flows) (l : String) (hl : l ∈ fd.letters) (hu : l ∉ d.dimLetters) :
    buildSystem? d dims naming = none :=
  invalid_refused d dims naming fun hv => hu ((d.valid_iff.mp hv).2.1 fd hfd l hl)

theorem stock_with_undefined_letter_refused (d : MFADef) (dims : DimSet) (naming : Naming) (sd : StockDef)
    (hsd : sd ∈ d.stocks) (l : String) (hl : l ∈ sd.letters) (hu : l ∉ d.dimLetters) :
    buildSystem? d dims naming = none :=
  invalid_refused d dims naming fun hv => hu ((d.valid_iff.mp hv).2.2.1 sd hsd l hl)

theorem parameter_with_undefined_letter_refused (d : MFADef) (dims : DimSet) (naming : Naming) (pd : ParamDef)
    (hpd : pd ∈ d.params) (l : String) (hl : l ∈ pd.letters) (hu : l ∉ d.dimLetters) :
    buildSystem? d dims naming = none :=
  invalid_refused d dims naming fun hv => hu ((d.valid_iff.mp hv).2.2.2 pd hpd l hl)

/-! ## the assembled system -/

/-- **`from_data_reader` once the dimensions are read**: a valid definition whose parts all build
yields exactly the listed processes, flows, stocks and parameters -/
theorem system_spec (d : MFADef) (dims : DimSet) (naming : Naming) (hv : d.valid = true)
    (procs : List (String × ProcessM)) (hp : makeProcesses? d.processes = some procs)
    (gf : FlowDef → FlowM) (hgf : ∀ fd ∈ d.flows, flowOf? procs dims naming fd = some (gf fd))
    (hfn : (d.flows.map fun fd => (gf fd).name).Nodup)
    (gs : StockDef → StockM) (hgs : ∀ sd ∈ d.stocks, stockOf? procs dims sd = some (gs sd))
    (hsn : (d.stocks.map fun sd => (gs sd).name).Nodup)
    (gp : ParamDef → DimSet) (hgp : ∀ p ∈ d.params, getSubset? dims (some p.letters) = some (gp p))
    (hpn : (d.params.map (·.name)).Nodup) :
    ∃ sys, buildSystem? d dims naming = some sys ∧ sys.processes = procs ∧
      sys.flows = d.flows.map (fun fd => ((gf fd).name, gf fd)) ∧
      sys.stocks = d.stocks.map (fun sd => ((gs sd).name, gs sd)) ∧
      sys.params = d.params.map (fun p => (p.name, gp p)) :=
  ⟨{ processes := procs, flows := _, stocks := _, params := _ }, (buildSystem?_eq_some_iff ..).mpr ⟨hv,
    buildDict_spec d.params (fun p => (p.name, gp p)) (fun p hp' => congrArg (Option.map _) (hgp p hp')) hpn, hp,
    flows_spec procs dims naming d.flows gf hgf hfn, stocks_spec procs dims d.stocks gs hgs hsn⟩, rfl, rfl, rfl, rfl⟩

/-! ## dimension files -/

/-- several rows and several columns are refused -/
theorem fromNp_block_refused (r1 r2 : List Cell) (rows : List (List Cell)) (name : String) (l : Char) (dt : DType)
    (h : 1 < r1.length) : fromNp? (r1 :: r2 :: rows) name l dt = none := by
  unfold fromNp?
  rw [if_pos]
  simpa using h

/-- an empty file is refused -/
theorem fromNp_empty_refused (name : String) (l : Char) (dt : DType) : fromNp? [] name l dt = none := rfl

/-- at most one row, or rows of at most one cell: a file holding one row or one column -/
def oneLine (cells : List (List Cell)) : Prop := cells.length ≤ 1 ∨ (cells.head?.map List.length).getD 0 ≤ 1

/-- **items in file order, converted to the declared type**; a first cell equal to the dimension's
name is a header and is dropped -/
theorem fromNp_spec (cells : List (List Cell)) (h1 : oneLine cells) (name : String) (l : Char) (dt : DType)
    (first : Cell) (rest : List Cell) (hflat : cells.flatten = first :: rest)
    (items : List Item)
    (hconv : (if first = Cell.str name then rest else first :: rest).mapM (convertCell dt) = some items)
    (hname : 2 ≤ name.length) :
    fromNp? cells name l dt = some { letter := l, name := name, items := items, dtype := some dt } := by
  unfold fromNp?
  have hnot : ¬ ((decide (cells.length > 1) && decide ((cells.head?.map List.length).getD 0 > 1)) = true) := by
    unfold oneLine at h1
    simp only [Bool.and_eq_true, decide_eq_true_eq]
    omega
  rw [if_neg hnot, hflat]
  simp only [beq_iff_eq, hconv, Option.bind_some]
  rw [if_pos]
  -- the resulting dimension is valid: converted items have the declared type
  unfold Dim.valid
  simp only [decide_eq_true hname, Bool.true_and]
  rw [List.all_eq_true]
  intro it hit
  obtain ⟨c, _, hc⟩ := mem_of_mapM hconv hit
  exact convertCell_hasType hc

/-- texts are kept verbatim by a `str` dimension; integers by an `int` dimension -/
theorem convert_str_text (s : String) : convertCell .str (.str s) = some (.str s) := rfl
theorem convert_int_int (i : Int) : convertCell .int (.int i) = some (.int i) := rfl
theorem convert_str_int (i : Int) : convertCell .str (.int i) = some (.str (toString i)) := rfl

/-- every integer text is a number text -/
theorem isNum_of_isInt (s : String) (h : isIntText s = true) : isNumText s = true := by
  unfold isIntText intOfText? at h
  rw [intOfChars?_isSome, natOfDigits?_isSome, Bool.and_eq_true] at h
  -- a run of digits has no decimal point: `isNumText` sees digits only, and at least one
  obtain ⟨h1, h2⟩ := takeWhile_dropWhile_of_all (p := (· != '.')) fun c hc => bne_iff_ne.mpr fun hd => by
    have := List.all_eq_true.mp h.2 c hc
    rw [hd, digitVal?_dot] at this
    cases this
  unfold isNumText
  simp only [h1, h2, h.1, h.2, Bool.and_self]

/-- **a CSV column holding some non-numeric text reaches the converter as the texts that were written** -/
theorem csv_text_column (col : List String) (h : ∃ s ∈ col, isNumText s = false) :
    csvColumnCells col = col.map Cell.str := by
  obtain ⟨s, hs, hn⟩ := h
  have hnum : ¬ isNumText s = true := Bool.eq_false_iff.mp hn
  unfold csvColumnCells
  rw [if_neg fun hall => hnum (isNum_of_isInt s (List.all_eq_true.mp hall s hs)),
    if_neg fun hall => hnum (List.all_eq_true.mp hall s hs)]

/-- a CSV column of integer texts reaches the converter as integers -/
theorem csv_int_column (col : List String) (h : ∀ s ∈ col, isIntText s = true) :
    csvColumnCells col = col.map (fun s => Cell.int ((intOfText? s).getD 0)) := by
  unfold csvColumnCells
  rw [if_pos (List.all_eq_true.mpr h)]

/-! ## the source as the model reads it (regenerated on every run) -/

/-- the readers keep labels such as "NA" (D24), open the first sheet when none is named (D15), and
`make_empty_stocks` hands the solver on (D23) -/
theorem source_build_sites :
    Gen.dimReadersKeepLabels = true ∧ Gen.excelDefaultSheetIsFirst = true ∧ Gen.stocksGetSolver = true ∧
    Gen.stockDefaultTimeLetter = "t" :=
  ⟨rfl, rfl, rfl, rfl⟩

/-- a stock definition that names no time letter gets the fixed default (`Gen.stockDefaultTimeLetter`,
regenerated from the field's declaration: `t`), never "whatever comes first": unless its dimensions
start with `t` it is refused when the stock is built -/
theorem default_time_letter_not_first_refused (procs : List (String × ProcessM)) (dims : DimSet) (sd : StockDef)
    (sub : DimSet) (hs : getSubset? dims (some sd.letters) = some sub)
    (htl : sd.timeLetter = Gen.stockDefaultTimeLetter) (h : (letters sub).head? ≠ some 't') :
    stockOf? procs dims sd = none :=
  stock_time_not_first procs dims sd sub hs 't' (by rw [htl]; decide) h

/-! ## non-vacuity: a concrete definition meets the hypotheses -/

def exDims : DimSet :=
  [{ letter := 't', name := "time", items := [.int 2000, .int 2001], dtype := some .int },
   { letter := 'r', name := "region", items := [.str "EU", .str "NA"], dtype := some .str }]

def exDef : MFADef :=
  { dimLetters := ["t", "r"], processes := ["sysenv", "use", "end of life"],
    flows := [{ fromName := "sysenv", toName := "use", letters := ["t", "r"] },
              { fromName := "use", toName := "end of life", letters := ["r", "t"], nameOverride := some "scrap" }],
    stocks := [{ name := "in use", process := some "use", letters := ["t", "r"], timeLetter := "t",
                 cls := .inflowDriven, lifetime := some "NormalLifetime" }],
    params := [{ name := "share", letters := ["r"] }] }

example : (buildSystem? exDef exDims .arrow).map (fun s => s.processes.map (fun p => (p.1, p.2.id)))
    = some [("sysenv", 0), ("use", 1), ("end of life", 2)] := by decide +kernel
example : (buildSystem? exDef exDims .arrow).map (fun s => s.flows.map (fun f => (f.1, f.2.fromP.id, f.2.toP.id, letters f.2.dims)))
    = some [("sysenv => use", 0, 1, ['t', 'r']), ("scrap", 1, 2, ['r', 't'])] := by decide +kernel
example : (buildSystem? exDef exDims .arrow).map (fun s => s.stocks.map (fun st => (st.1, st.2.lifetime, letters st.2.dims)))
    = some [("in use", some "NormalLifetime", ['t', 'r'])] := by decide +kernel
example : (buildSystem? exDef exDims .arrow).map (fun s => s.stocks.map (fun st => (st.2.cls, st.2.solver, st.2.timeLetter)))
    = some [(.inflowDriven, none, "t")] := by decide +kernel
example : (buildSystem? exDef exDims .arrow).map (fun s => s.params.map (fun p => (p.1, letters p.2)))
    = some [("share", ['r'])] := by decide +kernel

/-- the same stock with time second is refused -/
def exBadStock : StockDef :=
  { name := "in use", process := some "use", letters := ["r", "t"], timeLetter := "t", cls := .inflowDriven,
    lifetime := some "NormalLifetime" }
example : (buildSystem? { exDef with stocks := [exBadStock] } exDims .arrow).isNone = true := by decide +kernel

example : fromNp? (csvCells [["region"], ["EU"], ["NA"], ["2000"]]) "region" 'r' .str
    = some { letter := 'r', name := "region", items := [.str "EU", .str "NA", .str "2000"], dtype := some .str } := by
  decide +kernel

example : fromNp? (csvCells [["2000", "2001", "2002"]]) "time" 't' .int
    = some { letter := 't', name := "time", items := [.int 2000, .int 2001, .int 2002], dtype := some .int } := by
  decide +kernel

end Flodym.C18
