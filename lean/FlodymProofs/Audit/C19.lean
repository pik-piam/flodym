import FlodymProofs.Props.C19
#print axioms Flodym.C19.fileName_chars
#print axioms Flodym.C19.one_file_per_flow
#print axioms Flodym.C19.files_per_stock
#print axioms Flodym.C19.flow_files_distinct
#print axioms Flodym.C19.flow_exported
#print axioms Flodym.C19.stock_exported
#print axioms Flodym.C19.dictionary_sizes
#print axioms Flodym.C19.exported_rows_read_back
#print axioms Flodym.C19.defTables_flows
#print axioms Flodym.C19.defTables_no_empty_kind
#print axioms Flodym.C19.source_export_sites
