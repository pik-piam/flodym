import FlodymProofs.Props.C20
#print axioms Flodym.C20.sankey?_eq_some_iff
#print axioms Flodym.C20.nodes_are_the_shown_processes
#print axioms Flodym.C20.excluded_flows_not_shown
#print axioms Flodym.C20.links_come_from_shown_flows
#print axioms Flodym.C20.flowLinks?_eq_some
#print axioms Flodym.C20.unsplit_flow_link
#print axioms Flodym.C20.split_flow_links
#print axioms Flodym.C20.source_default_exclusion
#print axioms Flodym.C20.one_line
#print axioms Flodym.C20.slices_are_reads
#print axioms Flodym.C20.no_split_single
#print axioms Flodym.C20.plotLines?_of_not_valid
#print axioms Flodym.C20.missing_role_refused
