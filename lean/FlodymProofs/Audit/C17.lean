import FlodymProofs.Props.C17
import FlodymProofs.Props.C17Failing
#print axioms Flodym.C17.step_eq_stepE
#print axioms Flodym.C17.run_eq_runE
#print axioms Flodym.C17.compute_eq_fresh
#print axioms Flodym.C17.compute_idempotent
#print axioms Flodym.C17.source_resets_caches
#print axioms Flodym.C17.stale_cache_counterexample
#print axioms Flodym.C17.invE_iff
#print axioms Flodym.C17.ensureSfE_eq
#print axioms Flodym.C17.ensurePdfE_eq
#print axioms Flodym.C17.computeE_eq
#print axioms Flodym.C17.stepE_inv
#print axioms Flodym.C17.runE_inv
#print axioms Flodym.C17.readSfE_of_inv
#print axioms Flodym.C17.computeE_eq_fresh
#print axioms Flodym.C17.stepE_total
#print axioms Flodym.C17.failed_setPrms_changes_nothing
#print axioms Flodym.C17.source_set_prms_atomic
#print axioms Flodym.C17.partial_set_prms_counterexample
#print axioms Flodym.C17.source_failed_build_discarded
#print axioms Flodym.C17.kept_failed_build_counterexample
