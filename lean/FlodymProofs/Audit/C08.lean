import FlodymProofs.Props.C08
import FlodymProofs.Props.C08Tables
#print axioms Flodym.C08.sf_lowerTri
#print axioms Flodym.C08.sf_entry
#print axioms Flodym.C08.sf_entry_at_ages
#print axioms Flodym.C08.age_nonneg_increasing
#print axioms Flodym.C08.sf_range
#print axioms Flodym.C08.sf_antitone
#print axioms Flodym.C08.pdf_nonneg
#print axioms Flodym.C08.sf_add_cumulative_pdf
#print axioms Flodym.C08.parameter_applies_by_label
#print axioms Flodym.C08.exp_lognormS_sq
#print axioms Flodym.C08.exp_two_mu_add_sq
#print axioms Flodym.C08.lognormal_mean
#print axioms Flodym.C08.lognormal_variance
#print axioms Flodym.C08.normal_args
#print axioms Flodym.C08.foldnorm_args
#print axioms Flodym.C08.weibull_args
#print axioms Flodym.C08.fixed_sf
#print axioms Flodym.C08.tables_shape
#print axioms Flodym.C08.nodes_weights_valid
#print axioms Flodym.C08.tables_symmetric
#print axioms Flodym.C08.weights_sum
#print axioms Flodym.C08.rules_exact
#print axioms Flodym.C08.rules_not_exact_beyond
#print axioms Flodym.C08.mapped_rules
#print axioms Flodym.C08.single_point_rules
