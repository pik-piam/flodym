import FlodymProofs.Props.C04
#print axioms Flodym.C04.permute_labelEq
#print axioms Flodym.C04.margin_labelEq
#print axioms Flodym.C04.addLike_order_independent
#print axioms Flodym.C04.mul_order_independent
#print axioms Flodym.C04.div_order_independent
#print axioms Flodym.C04.sumTo_order_independent
#print axioms Flodym.C04.lifetime_parameter_order_independent
#print axioms Flodym.C04.castTo_order_independent
#print axioms Flodym.C04.cumsum_order_independent
#print axioms Flodym.C04.getitem_order_independent
#print axioms Flodym.C04.setitem_source_order_independent
#print axioms Flodym.C04.setitem_whole_order_independent
