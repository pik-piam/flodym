import FlodymProofs.Props.C13
#print axioms Flodym.C13.constructor_accepts_iff
#print axioms Flodym.C13.constructor_stores_as_given
#print axioms Flodym.C13.set_values_rejects_other_shape
#print axioms Flodym.C13.sumTo_wf
#print axioms Flodym.C13.sumOver_wf
#print axioms Flodym.C13.castTo_wf
#print axioms Flodym.C13.cumsum_wf
#print axioms Flodym.C13.getitem_wf
#print axioms Flodym.C13.addLike_wf
#print axioms Flodym.C13.mul_wf
#print axioms Flodym.C13.div_wf
#print axioms Flodym.C13.mapValues_wf
#print axioms Flodym.C13.full_wf
#print axioms Flodym.C13.setitem_wf
#print axioms Flodym.C13.source_whole_array_keys
#print axioms Flodym.C13.setitem_whole_nd_exact
#print axioms Flodym.C13.put_allWF
#print axioms Flodym.C13.failed_call_changes_nothing
#print axioms Flodym.C13.step_invariant
#print axioms Flodym.C13.history_invariant
#print axioms Flodym.C13.empty_store_ok
#print axioms Flodym.C13.source_validators
#print axioms Flodym.C13.stock_accepts_only_matching
#print axioms Flodym.C13.lifetime_requires_time_first
