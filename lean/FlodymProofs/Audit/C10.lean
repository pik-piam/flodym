import FlodymProofs.Props.C10
#print axioms Flodym.C10.lapack_eq_manual
#print axioms Flodym.C10.manual_solves_system
#print axioms Flodym.C10.stockDriven_of_inflowDriven_inflow
#print axioms Flodym.C10.stockDriven_of_inflowDriven_tables
#print axioms Flodym.C10.inflowDriven_of_stockDriven
