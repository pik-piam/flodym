import FlodymProofs.Props.C15
#print axioms Flodym.C15.pure_op_preserves_inputs
#print axioms Flodym.C15.assign_touches_only_target
#print axioms Flodym.C15.history_preserves_untouched
#print axioms Flodym.C15.allocFresh_inv
#print axioms Flodym.C15.allocFresh_preserves_reads
#print axioms Flodym.C15.fresh_result_independent
#print axioms Flodym.C15.write_isolated
#print axioms Flodym.C15.allocFresh_noSharing
#print axioms Flodym.C15.history_noSharing
