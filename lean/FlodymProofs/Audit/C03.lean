import FlodymProofs.Props.C03
#print axioms Flodym.C03.bounds_spec
#print axioms Flodym.C03.dt_pos
#print axioms Flodym.C03.balance_of_cohort_sum
#print axioms Flodym.C03.inflowDriven_balance
#print axioms Flodym.C03.inflowDriven_cumulative
#print axioms Flodym.C03.stockDriven_inflow_wp
#print axioms Flodym.C03.stockDriven_reproduces_stock
#print axioms Flodym.C03.stockDriven_outflow
#print axioms Flodym.C03.stockDriven_balance
#print axioms Flodym.C03.flowDriven_balance
#print axioms Flodym.C03.stockBalance_zero_of_balance
#print axioms Flodym.C03.stockBalance_inflowDriven
#print axioms Flodym.C03.stockBalance_stockDriven
#print axioms Flodym.C03.stockBalance_flowDriven
#print axioms Flodym.C03.stockBalance_perturbed
#print axioms Flodym.C03.check_accepts_balanced
#print axioms Flodym.C03.check_rejects_unbalanced
#print axioms Flodym.C03.perturbed_stock_balance
