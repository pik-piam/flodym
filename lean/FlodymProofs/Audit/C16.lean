import FlodymProofs.Props.C16
#print axioms Flodym.C16.inflowDriven_causal
#print axioms Flodym.C16.stockDriven_causal
#print axioms Flodym.C16.inflowDriven_linear
#print axioms Flodym.C16.stockDriven_linear
#print axioms Flodym.C16.inflowDriven_label_independent
#print axioms Flodym.C16.stockDriven_label_independent
#print axioms Flodym.C16.shift_invariant
#print axioms Flodym.C16.impulse_response
