import FlodymProofs.Props.C02
#print axioms Flodym.C02.process_balance_by_label
#print axioms Flodym.C02.idle_process_balance
#print axioms Flodym.C02.unknown_process_refused
#print axioms Flodym.C02.le_nan_false
#print axioms Flodym.C02.gt_nan_false
#print axioms Flodym.C02.source_constants
#print axioms Flodym.C02.check_decision
#print axioms Flodym.C02.check_ok_iff
#print axioms Flodym.C02.nan_balance_never_success
#print axioms Flodym.C02.maxAbs_nan
#print axioms Flodym.C02.default_tolerance
#print axioms Flodym.C02.source_tolerance_ignores_nan
#print axioms Flodym.C02.default_tolerance_formula
#print axioms Flodym.C02.default_tolerance_is_a_number
#print axioms Flodym.C02.checkFlows_flags
#print axioms Flodym.C02.checkFlows_raises
#print axioms Flodym.C02.shown_iff
#print axioms Flodym.C02.flagged_iff
