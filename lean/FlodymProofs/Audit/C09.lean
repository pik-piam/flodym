import FlodymProofs.Props.C09
#print axioms Flodym.C09.inflowDriven_tables
#print axioms Flodym.C09.inflowDriven_cohort_conservation
#print axioms Flodym.C09.inflowDriven_cohort_antitone
#print axioms Flodym.C09.stockDriven_sbc
#print axioms Flodym.C09.stockDriven_obc
#print axioms Flodym.C09.stockDriven_tables
#print axioms Flodym.C09.stockDriven_cohort_conservation
