import FlodymProofs.Props.C12
import FlodymProofs.Props.C12Stages
#print axioms Flodym.C12.complete?_eq_some
#print axioms Flodym.C12.complete?_eq_none
#print axioms Flodym.C12.duplicate_refused
#print axioms Flodym.C12.unknown_item_refused
#print axioms Flodym.C12.missing_refused
#print axioms Flodym.C12.nan_refused
#print axioms Flodym.C12.success_iff
#print axioms Flodym.C12.allow_extra_ignores_unknown_rows
#print axioms Flodym.C12.allow_missing_fills_zero
#print axioms Flodym.C12.default_keeps_values
#print axioms Flodym.C12.setValuesFromDf_all_or_nothing
#print axioms Flodym.C12.missing_column_refused
#print axioms Flodym.C12.several_value_columns_refused
#print axioms Flodym.C12.no_value_column_refused
#print axioms Flodym.C12.source_keeps_fractional_labels
#print axioms Flodym.C12.fractional_label_kept
#print axioms Flodym.C12.fractional_label_unknown
#print axioms Flodym.C12.fractional_label_refused
