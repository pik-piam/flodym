import FlodymProofs.Props.C18
#print axioms Flodym.C18.processes_refused
#print axioms Flodym.C18.processes_numbered
#print axioms Flodym.C18.process_id_is_position
#print axioms Flodym.C18.flow_spec
#print axioms Flodym.C18.flow_unknown_process
#print axioms Flodym.C18.flow_unknown_dimension
#print axioms Flodym.C18.flows_spec
#print axioms Flodym.C18.flows_refused
#print axioms Flodym.C18.stock_spec
#print axioms Flodym.C18.stock_time_not_first
#print axioms Flodym.C18.stock_unknown_process
#print axioms Flodym.C18.stocks_spec
#print axioms Flodym.C18.stocks_refused
#print axioms Flodym.C18.buildSystem?_eq_some_iff
#print axioms Flodym.C18.lifetime_mismatch_invalid
#print axioms Flodym.C18.unknown_solver_invalid
#print axioms Flodym.C18.invalid_refused
#print axioms Flodym.C18.definition_with_invalid_stock_refused
#print axioms Flodym.C18.definition_with_undefined_letter_refused
#print axioms Flodym.C18.stock_with_undefined_letter_refused
#print axioms Flodym.C18.parameter_with_undefined_letter_refused
#print axioms Flodym.C18.system_spec
#print axioms Flodym.C18.fromNp_block_refused
#print axioms Flodym.C18.fromNp_empty_refused
#print axioms Flodym.C18.fromNp_spec
#print axioms Flodym.C18.convert_str_text
#print axioms Flodym.C18.convert_int_int
#print axioms Flodym.C18.convert_str_int
#print axioms Flodym.C18.isNum_of_isInt
#print axioms Flodym.C18.csv_text_column
#print axioms Flodym.C18.csv_int_column
#print axioms Flodym.C18.source_build_sites
#print axioms Flodym.C18.default_time_letter_not_first_refused
