import FlodymProofs.Props.C14
#print axioms Flodym.C14.union_spec
#print axioms Flodym.C14.inter_spec
#print axioms Flodym.C14.diff_spec
#print axioms Flodym.C14.xor_spec
#print axioms Flodym.C14.add_refuses_overlap
#print axioms Flodym.C14.add_disjoint
#print axioms Flodym.C14.getSubset_requested_order
#print axioms Flodym.C14.getSubset_by_names
#print axioms Flodym.C14.getSubset_unknown
#print axioms Flodym.C14.lookup_by_letter
#print axioms Flodym.C14.lookup_by_name
#print axioms Flodym.C14.not_contains_unknown
#print axioms Flodym.C14.index_is_position
#print axioms Flodym.C14.shape_and_size
#print axioms Flodym.C14.mk_iff
#print axioms Flodym.C14.mutator_preserves_unique
#print axioms Flodym.C14.clash_refused
#print axioms Flodym.C14.expand_refuses_internal_clash
#print axioms Flodym.C14.history_preserves_unique
#print axioms Flodym.C14.out_of_place_unique
