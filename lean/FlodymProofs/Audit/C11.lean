import FlodymProofs.Props.C11
import FlodymProofs.Props.C11Pipeline
#print axioms Flodym.C11.listed_dense
#print axioms Flodym.C11.eq_zero_of_not_listed
#print axioms Flodym.C11.toDf_rows
#print axioms Flodym.C11.toDf_rows_dense
#print axioms Flodym.C11.toDf_rows_sparse
#print axioms Flodym.C11.entries_once
#print axioms Flodym.C11.labelsOf_getElem
#print axioms Flodym.C11.entry_from_unique_row
#print axioms Flodym.C11.row_order_irrelevant
#print axioms Flodym.C11.default_import_is_complete
#print axioms Flodym.C11.roundtrip_rowsAt
#print axioms Flodym.C11.roundtrip_rows
#print axioms Flodym.C11.source_converter_as_modelled
#print axioms Flodym.C11.convert_named_long
#print axioms Flodym.C11.toLong_named
#print axioms Flodym.C11.toLong_toDfLong
#print axioms Flodym.C11.roundtrip_toDfLong
#print axioms Flodym.C11.roundtrip_named_long
#print axioms Flodym.C11.roundtrip_rows_sparse
#print axioms Flodym.C11.roundtrip_named_long_sparse
