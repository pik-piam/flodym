import FlodymProofs.Props.C01
import FlodymProofs.Props.C02
import FlodymProofs.Props.C03
import FlodymProofs.Props.C04
import FlodymProofs.Props.C05
import FlodymProofs.Props.C06
import FlodymProofs.Props.C07
import FlodymProofs.Props.C08
import FlodymProofs.Props.C08Tables
import FlodymProofs.Props.C09
import FlodymProofs.Props.C10
import FlodymProofs.Props.C11
import FlodymProofs.Props.C11Pipeline
import FlodymProofs.Props.C12
import FlodymProofs.Props.C12Stages
import FlodymProofs.Props.C13
import FlodymProofs.Props.C14
import FlodymProofs.Props.C15
import FlodymProofs.Props.C16
import FlodymProofs.Props.C17
import FlodymProofs.Props.C17Failing
import FlodymProofs.Props.C18
import FlodymProofs.Props.C19
import FlodymProofs.Props.C20
